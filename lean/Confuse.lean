-- the model
import Confuse.Basic
import Confuse.Model.Lexer
import Confuse.Model.Num
import Confuse.Model.Types
import Confuse.Model.Store
import Confuse.Model.Path
import Confuse.Model.Parser
import Confuse.Model.Print
import Confuse.Model.Api
import Confuse.Model.Ledger
import Confuse.Model.Fault
import Confuse.Model.Globals
-- the driver of the correspondence check
import Confuse.Driver
-- reference definitions
import Confuse.Spec.Items
import Confuse.Spec.Literal
import Confuse.Spec.Numeral
-- lemmas, in import order (DESIGN.md §3.4)
import Confuse.Lemmas.Path
import Confuse.Lemmas.Parser
import Confuse.Lemmas.Span
import Confuse.Lemmas.Resolve
import Confuse.Lemmas.Store
import Confuse.Lemmas.Lift
import Confuse.Lemmas.Assign
import Confuse.Lemmas.Compose
import Confuse.Lemmas.Erase
import Confuse.Lemmas.Lexer
import Confuse.Lemmas.Onto
import Confuse.Lemmas.Srcs
import Confuse.Lemmas.Loop
import Confuse.Lemmas.Reads
import Confuse.Lemmas.Shift
import Confuse.Lemmas.Splice
import Confuse.Lemmas.LoopSim
import Confuse.Lemmas.Mono
import Confuse.Lemmas.NoDep
import Confuse.Lemmas.Quiet
import Confuse.Lemmas.NoDepM
import Confuse.Lemmas.Num
import Confuse.Lemmas.OptInv
import Confuse.Lemmas.Reported
import Confuse.Lemmas.SkipInv
import Confuse.Lemmas.Total
-- the property theorems
import Confuse.Props.C01
import Confuse.Props.C01A
import Confuse.Props.C01K
import Confuse.Props.C02
import Confuse.Props.C03
import Confuse.Props.C04
import Confuse.Props.C05
import Confuse.Props.C05B
import Confuse.Props.C05F
import Confuse.Props.C05L
import Confuse.Props.C05N
import Confuse.Props.C05R
import Confuse.Props.C05S
import Confuse.Props.C05T
import Confuse.Props.C06
import Confuse.Props.C06Layout
import Confuse.Props.C06R
import Confuse.Props.C07
import Confuse.Props.C08
import Confuse.Props.C09
import Confuse.Props.C09F
import Confuse.Props.C10
import Confuse.Props.C11
import Confuse.Props.C11R
import Confuse.Props.C12
import Confuse.Props.C12I
import Confuse.Props.C13
import Confuse.Props.C13L
import Confuse.Props.C13S
import Confuse.Props.C14
import Confuse.Props.C14A
import Confuse.Props.C14L
import Confuse.Props.C14M
import Confuse.Props.C15
import Confuse.Props.C15R
import Confuse.Props.C16
import Confuse.Props.C17
import Confuse.Props.C18
import Confuse.Props.C19
