import Confuse.Lemmas.Lift
import Confuse.Props.C12
/-!
# Item grammar of configuration texts and its compositional evaluation

`Item` is the grammar the documentation describes: assignments, braced lists, function calls,
comments and (titled) sections whose bodies are again item lists.  Every token carries the number
of line increments the scanner made while producing it, so a text is represented exactly.

`evalItems` evaluates an item list *compositionally*: the body of a section is evaluated by a
recursive call on a machine that holds nothing but the new section's frame, and its result is
re-attached to the enclosing frame afterwards.  `C01_compositional` (Props/C01.lean) proves that the
explicit-stack token machine run over the flattened text computes the same thing.

The evaluation is partial: it gives up (`none`) where the shape of the text does not match what
the machine does with it (a guard before every closing brace).  `evalItems_total` shows that this
never happens from an item boundary.
-/
namespace Confuse

inductive Item where
  | assign (name : Bytes) (n1 : Nat) (append : Bool) (n2 : Nat) (v : Bytes) (n3 : Nat)
  | list (name : Bytes) (n1 : Nat) (append : Bool) (n2 n3 : Nat) (vs : List (Nat × Bytes × Nat)) (n4 : Nat)
  | call (name : Bytes) (n1 n2 : Nat) (args : List (Nat × Bytes × Nat)) (n3 : Nat)
  | comment (text : Bytes) (n : Nat)
  | sec (name : Bytes) (n1 : Nat) (title : Option (Bytes × Nat)) (n2 : Nat) (body : List Item) (n3 : Nat)

def asgTok (append : Bool) : Tok := if append then .pluseq else .eq

/-- comma-separated values; each element carries the line increments of the comma before it (not
used for the first one) and of the value itself -/
def flatSeq : Bool → List (Nat × Bytes × Nat) → List LTok
  | _, [] => []
  | true, (_, v, n) :: t => (.str v, n) :: flatSeq false t
  | false, (c, v, n) :: t => (.comma, c) :: (.str v, n) :: flatSeq false t

def secHead (name : Bytes) (n1 : Nat) (title : Option (Bytes × Nat)) (n2 : Nat) : List LTok :=
  [(.str name, n1)] ++ (match title with | some (t, n) => [(.str t, n)] | none => []) ++ [(.lbrace, n2)]

mutual
def Item.flat : Item → List LTok
  | .assign name n1 app n2 v n3 => [(.str name, n1), (asgTok app, n2), (.str v, n3)]
  | .list name n1 app n2 n3 vs n4 =>
    ([(.str name, n1), (asgTok app, n2), (.lbrace, n3)] ++ flatSeq true vs) ++ [(.rbrace, n4)]
  | .call name n1 n2 args n3 => [(.str name, n1), (.lparen, n2)] ++ flatSeq true args ++ [(.rparen, n3)]
  | .comment t n => [(.comment t, n)]
  | .sec name n1 title n2 body n3 => (secHead name n1 title n2 ++ flats body) ++ [(.rbrace, n3)]
def flats : List Item → List LTok
  | [] => []
  | i :: is => i.flat ++ flats is
end

/-- the machine has stopped, or is at an item boundary of a one-frame stack -/
def atBoundary (m : PM) : Bool :=
  m.status != .running || (match m.frames with | [f] => f.state == .s0 | _ => false)

/-- a `}` now would not pop the last frame of the stack -/
def noPop (m : PM) : Bool :=
  m.status != .running || (match m.frames with | [f] => f.state != .s0 | [] => false | _ => true)

mutual
def evalItem (orc : Oracle) (m : PM) : Item → Option PM
  | .assign name n1 app n2 v n3 => some (parseToks orc m [(.str name, n1), (asgTok app, n2), (.str v, n3)])
  | .list name n1 app n2 n3 vs n4 =>
    let m1 := parseToks orc m ([(.str name, n1), (asgTok app, n2), (.lbrace, n3)] ++ flatSeq true vs)
    if noPop m1 then some (pstep orc m1 .rbrace n4) else none
  | .call name n1 n2 args n3 => some (parseToks orc m ([(.str name, n1), (.lparen, n2)] ++ flatSeq true args ++ [(.rparen, n3)]))
  | .comment t n => some (pstep orc m (.comment t) n)
  | .sec name n1 title n2 body n3 =>
    let m1 := parseToks orc m (secHead name n1 title n2)
    if m1.status != .running then some m1
    else
      match m1.frames with
      | [child, parent] =>
        -- the section was opened: its body is evaluated on its own, then re-attached
        if m1.maxDepth ≥ 1 then
          (match evalItems orc { m1 with frames := [child], maxDepth := m1.maxDepth - 1 } body with
           | some r => some (pstep orc (liftM r [parent]) .rbrace n3)
           | none => none)
        else none
      | [f] =>
        -- an undeclared section being skipped (ignore-unknown): the body is swallowed as tokens
        if f.state == .s12 && f.depth == 1 && depthAfter 1 (flats body) == some 1 && (flats body).all (·.1.inner) then
          some (pstep orc (parseToks orc m1 (flats body)) .rbrace n3)
        else none
      | _ => none
def evalItems (orc : Oracle) (m : PM) : List Item → Option PM
  | [] => some m
  | i :: is =>
    match evalItem orc m i with
    | some m' => evalItems orc m' is
    | none => none
end

end Confuse
