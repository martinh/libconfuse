import Confuse.Model.Api
import Confuse.Lemmas.Store
/-!
# C09 — setter, list and section API behaves as a simple typed store

The abstract store of one option is its value list; `setnVal`, `addlist`, `setlist`, `rmnsec`,
`rmtsec`, `setopt` (used by `cfg_addtsec`) are shown to act on it as set-at-index / append /
replace-all / erase-at-index, and refused calls to leave the option untouched.
-/
namespace Confuse

/-- abstract "set index i" on a value sequence: replace inside, append at or beyond the end -/
def aSet (vals : List Val) (i : Nat) (v : Val) : List Val :=
  if i ≥ vals.length then vals ++ [v] else listSet vals i v

/-- `cfg_opt_setn*` in terms of `dropDefaults` -/
theorem setnVal_eq (o : Opt) (v : Val) (i : Nat) : setnVal o v i =
    if i != 0 && !o.flags.list && !o.flags.multi then (o, false, [])
    else (.mk (dropDefaults o).1.info { (dropDefaults o).1.flags with modified := true } (dropDefaults o).1.subs
      (aSet (dropDefaults o).1.vals i v) (dropDefaults o).1.comment, true, (dropDefaults o).2) := by
  unfold setnVal dropDefaults aSet
  by_cases h : (i != 0 && !o.flags.list && !o.flags.multi) = true
  · simp only [h, if_true]
  · simp only [h]

theorem setnVal_ok (o : Opt) (v : Val) (i : Nat) (hidx : i = 0 ∨ o.flags.list = true ∨ o.flags.multi = true) :
    setnVal o v i = (.mk o.info { o.flags with reset := false, modified := true } o.subs (aSet o.base i v) o.comment, true,
      if o.flags.reset then freeEvOpt o else []) := by
  have : (i != 0 && !o.flags.list && !o.flags.multi) = false := by rcases hidx with h | h | h <;> simp [h]
  rw [setnVal_eq, this, dropDefaults_eq]; rfl

/-- **indexed setter = set-at-index** on an option that is not pristine -/
theorem C09_setn_refines (o : Opt) (v : Val) (i : Nat) (hr : o.flags.reset = false)
    (hidx : i = 0 ∨ o.flags.list = true ∨ o.flags.multi = true) :
    (setnVal o v i).1.vals = aSet o.vals i v ∧ (setnVal o v i).2.1 = true ∧ (setnVal o v i).1.flags.modified = true ∧
    (setnVal o v i).1.flags.list = o.flags.list ∧ (setnVal o v i).1.flags.reset = false := by
  rw [setnVal_ok o v i hidx, Opt.base_of_not_reset hr]
  exact ⟨rfl, rfl, rfl, rfl, rfl⟩

/-- **a pristine option is cleared by its first indexed set** (the default/"RESET" rule) -/
theorem C09_setn_pristine (o : Opt) (v : Val) (i : Nat) (hr : o.flags.reset = true)
    (hidx : i = 0 ∨ o.flags.list = true ∨ o.flags.multi = true) :
    (setnVal o v i).1.vals = [v] ∧ (setnVal o v i).1.flags.reset = false ∧ (setnVal o v i).1.flags.list = o.flags.list := by
  rw [setnVal_ok o v i hidx, Opt.base_of_reset hr]
  exact ⟨rfl, rfl, rfl⟩

/-- **index beyond a scalar fails without effect** -/
theorem C09_scalar_index_refused (o : Opt) (v : Val) (i : Nat) (hi : i ≠ 0) (hl : o.flags.list = false) (hm : o.flags.multi = false) :
    setnVal o v i = (o, false, []) := by
  unfold setnVal
  simp [hi, hl, hm]

/-- **wrong type fails without effect** -/
theorem C09_wrong_type_refused (ty : Ty) (o : Opt) (v : Val) (i : Nat) (h : o.ty ≠ ty) :
    optSetn ty v i o = (o, false, []) := by
  unfold optSetn
  simp [h]

/-- **unknown name fails without effect** (every by-name setter) -/
theorem C09_unknown_name_refused (orc : Oracle) (k : Nat) (c : Cfg) (path : Bytes) (ty : Ty) (v : Val) (i : Nat) (byName : Bool)
    (h : (getoptPath c path).ref = none) :
    (apiSetn orc k c path ty v i byName).cfg = c ∧ (apiSetn orc k c path ty v i byName).rc = -1 := by
  unfold apiSetn
  simp [h]

theorem addlistInternal_vals : ∀ (vs : List Val) (o : Opt) (v : Val), o.flags.list = true →
    (addlistInternal o (v :: vs)).1.vals = o.base ++ v :: vs := by
  intro vs
  induction vs with
  | nil =>
    intro o v hl
    simp only [addlistInternal, setnVal_ok o v _ (.inr (.inl hl)), aSet, ge_iff_le, o.base_length_le, if_true]; rfl
  | cons w ws ih =>
    intro o v hl
    rw [addlistInternal, setnVal_ok o v _ (.inr (.inl hl))]
    simp only [aSet, ge_iff_le, o.base_length_le, if_true]
    refine (ih _ w (by exact hl)).trans ?_
    rw [Opt.base_of_not_reset rfl]
    simp

theorem addlistInternal_appends (vs : List Val) : ∀ (o : Opt), o.flags.reset = false → o.flags.list = true →
    (addlistInternal o vs).1.vals = o.vals ++ vs := by
  intro o hr hl
  cases vs with
  | nil => simp [addlistInternal]
  | cons v vs => rw [addlistInternal_vals vs o v hl, Opt.base_of_not_reset hr]

/-- **appending appends to whatever the option currently holds, defaults included** -/
theorem C09_append_keeps_defaults (o : Opt) (vs : List Val) (hl : o.flags.list = true) :
    (addlist o vs).1.vals = o.vals ++ vs := by
  cases o; exact addlistInternal_appends vs _ rfl hl

theorem freeValue_fst (o : Opt) : (freeValue o).1.vals = [] ∧ (freeValue o).1.flags = o.flags := ⟨rfl, rfl⟩

/-- **cfg_setlist = replace all** (non-empty argument list) -/
theorem C09_setlist_replaces (o : Opt) (v : Val) (vs : List Val) (hl : o.flags.list = true) :
    (setlist o (v :: vs)).1.vals = v :: vs := by
  have : (freeValue o).1.base = [] := by unfold Opt.base; split <;> rfl
  exact (addlistInternal_vals vs (freeValue o).1 v hl).trans (by rw [this]; rfl)

theorem rmnsec_ok (o : Opt) (i : Nat) (hs : o.ty = .sec) (hi : i < o.vals.length)
    (hidx : i = 0 ∨ o.flags.list = true ∨ o.flags.multi = true) :
    rmnsec o i = (o.setVals (o.vals.eraseIdx i), true, match o.vals[i]? with | some (.sec c) => freeEvCfg c | _ => []) := by
  have h3 : (i != 0 && !o.flags.list && !o.flags.multi) = false := by rcases hidx with h | h | h <;> simp [h]
  rw [rmnsec, if_neg (by simp [hs]), if_neg (by omega), h3]
  rfl

/-- **removal keeps the order of the rest** -/
theorem C09_remove_keeps_order (o : Opt) (i : Nat) (hs : o.ty = .sec) (hi : i < o.vals.length)
    (hidx : i = 0 ∨ o.flags.list = true ∨ o.flags.multi = true) :
    (rmnsec o i).1.vals = o.vals.eraseIdx i ∧ (rmnsec o i).2.1 = true := by
  rw [rmnsec_ok o i hs hi hidx]
  exact ⟨rfl, rfl⟩

/-- **removing what is not there fails without effect** -/
theorem C09_remove_missing_refused (o : Opt) (i : Nat) (hi : i ≥ o.vals.length) : rmnsec o i = (o, false, []) := by
  unfold rmnsec
  by_cases hs : o.ty = .sec <;> simp [hs, hi]

theorem C09_remove_title_missing_refused (o : Opt) (t : Bytes) (h : gettsecidx o t = none) : rmtsec o t = (o, false, []) := by
  unfold rmtsec
  by_cases ht : o.flags.title = true <;> simp [ht, h]

/-- **titles stay unique**: `cfg_addtsec` refuses a title that an instance already carries -/
theorem C09_addtsec_existing_refused (orc : Oracle) (k : Nat) (c : Cfg) (path t : Bytes) (r : OptRef) (o : Opt) (i : Nat)
    (hr : (getoptPath c path).ref = some r) (ho : c.getOpt r = some o) (hs : o.ty = .sec) (ht : o.flags.title = true)
    (hex : gettsecidx o t = some i) :
    (apiAddtsec orc k c path (some t)).cfg = c ∧ (apiAddtsec orc k c path (some t)).rc = -1 := by
  unfold apiAddtsec
  simp [hr, ho, hs, ht, hex]

/-- **wrong type**: adding a section to an option that is not a section fails without effect (fix F37: the
library stored the title as the option's value and then followed it as a pointer) -/
theorem C09_addtsec_wrong_type (orc : Oracle) (k : Nat) (c : Cfg) (path : Bytes) (t : Option Bytes) (r : OptRef) (o : Opt)
    (hr : (getoptPath c path).ref = some r) (ho : c.getOpt r = some o) (hs : o.ty ≠ .sec) :
    (apiAddtsec orc k c path t).cfg = c ∧ (apiAddtsec orc k c path t).rc = -1 := by
  unfold apiAddtsec
  cases t <;> simp [hr, ho, hs]

/-- **an add never replaces**: a title that `cfg_setopt` would match under the context's case rule is refused,
whatever the option's own flags say (fix F37: under a case-insensitive context `FOO` replaced `foo`) -/
theorem C09_addtsec_never_replaces (orc : Oracle) (k : Nat) (c : Cfg) (path t : Bytes) (r : OptRef) (o : Opt) (i : Nat)
    (hr : (getoptPath c path).ref = some r) (ho : c.getOpt r = some o) (hs : o.ty = .sec) (ht : o.flags.title = true)
    (hex : findTitle c.info.flags.nocase t o.vals 0 = some i) :
    (apiAddtsec orc k c path (some t)).cfg = c ∧ (apiAddtsec orc k c path (some t)).rc = -1 := by
  unfold apiAddtsec
  by_cases hg : (gettsecidx o t).isSome = true <;> simp [hr, ho, hs, ht, hex, hg]

end Confuse
