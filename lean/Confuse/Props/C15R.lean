import Confuse.Model.Print
import Confuse.Lemmas.Reads
/-!
# C15 / C05 — a printed annotation is read back as that annotation

`cfg_print_comment` writes an annotation as `/* text */`; when the text contains the end-of-comment
marker it writes `# text` (or `// text` when the text starts with `#`).  Either way the scanner
returns one comment token carrying exactly the text (trimmed of white space at both ends, as every
comment is), and nothing of the text is read as configuration.
-/
namespace Confuse

theorem hasStarSlash_cons (c : Nat) (cs : Bytes) (h : hasStarSlash (c :: cs) = false) : hasStarSlash cs = false := by
  cases cs with
  | nil => rfl
  | cons d ds => simp only [hasStarSlash, Bool.or_eq_false_iff] at h; exact h.2

def allBlank (x : Bytes) : Bool := x.all isBlank

theorem isSpaceC_of_allBlank {x : Bytes} (h : allBlank x = true) : ∀ c ∈ x, isSpaceC c = true := by
  intro c hc
  have := List.all_eq_true.1 h c hc
  simp only [isBlank, Bool.or_eq_true, beq_iff_eq] at this
  rcases this with rfl | rfl <;> rfl

theorem trimWs_append_blank (a x : Bytes) (h : allBlank x = true) : trimWs (a ++ x) = trimWs a := by
  have hb := isSpaceC_of_allBlank h
  unfold trimWs
  rw [List.dropWhile_append]
  split
  · rename_i ha
    have hx : x.dropWhile isSpaceC = [] := by simpa using List.dropWhile_append_of_pos (l₂ := []) hb
    rw [hx, List.isEmpty_iff.1 ha]
  · rw [List.reverse_append, List.dropWhile_append_of_pos fun c hc => hb c (List.mem_reverse.1 hc)]

theorem countNl_blank (x : Bytes) (h : allBlank x = true) : countNl x = 0 := by
  rw [← nlCount_eq_countNl]
  exact nlCount_eq_zero fun c hc e => by subst e; cases List.all_eq_true.1 h _ hc

/-- behind a text without the marker, the ` */` that `cfg_print_comment` appends is the terminator exactly when only
blanks are left of the text -/
theorem commentEnd_block (tail : Bytes) : ∀ x : Bytes, hasStarSlash x = false →
    commentEnd (x ++ c_sp :: c_star :: c_slash :: tail) = if allBlank x = true then some tail else none := by
  -- inside a run of stars
  have stars : ∀ r : Bytes, hasStarSlash (c_star :: r) = false →
      commentEnd (c_star :: (r ++ c_sp :: c_star :: c_slash :: tail)) = none := by
    intro r
    induction r with
    | nil => exact fun _ => rfl
    | cons e es ih =>
      intro hm
      by_cases he : e = c_star
      · subst he; exact ih (hasStarSlash_cons _ _ hm)
      · exact commentEnd_star_other _ he fun e2 => by subst e2; cases hm
  intro x
  induction x with
  | nil => exact fun _ => rfl
  | cons c cs ih =>
    intro hm
    cases hb : isBlank c with
    | true => rw [List.cons_append, commentEnd_blank _ hb, ih (hasStarSlash_cons c cs hm), allBlank, allBlank, List.all_cons, hb, Bool.true_and]
    | false =>
      rw [allBlank, List.all_cons, hb, Bool.false_and, if_neg Bool.false_ne_true]
      by_cases hc : c = c_star
      · subst hc; exact stars cs hm
      · exact commentEnd_other _ hb hc

theorem commentRun_block : ∀ (x acc : Bytes) (nl : Nat) (tail : Bytes), hasStarSlash x = false →
    commentRun acc nl (x ++ c_sp :: c_star :: c_slash :: tail) = ⟨.comment (trimWs (acc.reverse ++ x)), nl + countNl x, tail⟩ := by
  intro x
  induction x with
  | nil => intro acc nl tail _; simp [commentRun, show commentEnd (c_sp :: c_star :: c_slash :: tail) = some tail from rfl]
  | cons c cs ih =>
    intro acc nl tail hm
    rw [List.cons_append, commentRun_cons, ← List.cons_append, commentEnd_block tail _ hm]
    by_cases hb : allBlank (c :: cs) = true
    · rw [if_pos hb, trimWs_append_blank _ _ hb, countNl_blank _ hb]; rfl
    · rw [if_neg hb]
      show commentRun (c :: acc) (nl + nlCount [c]) (cs ++ _) = _
      rw [ih _ _ _ (hasStarSlash_cons c cs hm), countNl_cons, nlCount_single, List.reverse_cons, List.append_assoc, Nat.add_assoc]
      rfl

theorem trimWs_sp (c : Bytes) : trimWs (c_sp :: c) = trimWs c := by
  unfold trimWs
  simp [isSpaceC]

/-- **C15 (read-back, block form).** -/
theorem C15_annotation_readback_block (env : Env) (c rest : Bytes) (nl : Nat) (hm : hasStarSlash c = false) :
    lexInitial env nl (printComment c ++ rest) = ⟨.comment (trimWs c), nl + countNl c, c_nl :: rest⟩ := by
  unfold printComment
  simp only [hm, Bool.not_false, if_true]
  have := commentRun_block (c_sp :: c) [] nl (c_nl :: rest) (by
    cases c with
    | nil => rfl
    | cons d ds => simp [hasStarSlash, hm])
  simp only [List.cons_append, List.nil_append, List.append_assoc]
  simp only [List.cons_append, List.reverse_nil, List.nil_append] at this
  show commentRun [] nl _ = _
  rw [this, trimWs_sp]
  have h2 : countNl (c_sp :: c) = countNl c := by rw [countNl_cons]; simp
  rw [h2]

/-- `pre` is the marker of a line comment, `//` or `#` -/
theorem lineComment_readback (marker : Nat) (pre c rest : Bytes) (nl : Nat) (hpre : pre.all (· == marker) = true)
    (hpn : pre.all (· != c_nl) = true) (hsp : (c_sp == marker) = false) (hnl : c.all (· != c_nl) = true) (h0 : ∀ x ∈ c, x ≠ 0) :
    lineComment marker nl (pre ++ c_sp :: c ++ c_nl :: rest) = ⟨.comment (trimWs c), nl, c_nl :: rest⟩ := by
  obtain ⟨e1, e2⟩ := span_append (p := (· != c_nl)) (a := pre ++ c_sp :: c) (d := c_nl) rest (by simp [hpn, hnl]) rfl
  have h0' : ∀ x ∈ c_sp :: c, x ≠ 0 := fun x hx => by rcases List.mem_cons.1 hx with rfl | hx; decide; exact h0 x hx
  rw [lineComment, e1, e2, (span_append c hpre hsp).2, cstr_noNul _ h0', trimWs_sp]

/-- **C15 (read-back, line form).** -/
theorem C15_annotation_readback_line (env : Env) (c rest : Bytes) (nl : Nat) (hm : hasStarSlash c = true)
    (hnl : c.all (· != c_nl) = true) (h0 : ∀ x ∈ c, x ≠ 0) :
    lexInitial env nl (printComment c ++ rest) = ⟨.comment (trimWs c), nl, c_nl :: rest⟩ := by
  have hc : c.contains c_nl = false := by
    rw [Bool.eq_false_iff]
    intro hcon
    have := List.all_eq_true.1 hnl _ (List.contains_iff_mem.1 hcon)
    simp at this
  rw [printComment, hm, hc]
  by_cases hh : c.head? = some c_hash
  · have : lexInitial env nl ([c_slash, c_slash] ++ c_sp :: c ++ c_nl :: rest) = _ :=
      lineComment_readback c_slash [c_slash, c_slash] c rest nl rfl rfl rfl hnl h0
    simpa [hh] using this
  · have : lexInitial env nl ([c_hash] ++ c_sp :: c ++ c_nl :: rest) = _ :=
      lineComment_readback c_hash [c_hash] c rest nl rfl rfl rfl hnl h0
    simpa [hh] using this

/-- **C15 (read-back).** Every annotation that a parse can produce — the text of a `#` / `//`
comment (no newline) or of a `/* */` comment (no end marker) — is printed so that the scanner reads
back one comment token carrying exactly that text, whatever follows it. -/
theorem C15_annotation_readback (env : Env) (c rest : Bytes) (nl : Nat) (h0 : ∀ x ∈ c, x ≠ 0)
    (hreach : hasStarSlash c = false ∨ c.all (· != c_nl) = true) :
    ∃ nl', lexInitial env nl (printComment c ++ rest) = ⟨.comment (trimWs c), nl', c_nl :: rest⟩ := by
  by_cases hm : hasStarSlash c = true
  · rcases hreach with h | h
    · rw [h] at hm; cases hm
    · exact ⟨nl, C15_annotation_readback_line env c rest nl hm h h0⟩
  · exact ⟨nl + countNl c, C15_annotation_readback_block env c rest nl (by simpa using hm)⟩

-- annotations that escape a `/* */` written around them (fix F34)
example : printComment [112, 32, 42, 47, 32, 116] = [35, 32, 112, 32, 42, 47, 32, 116, 10] := by decide   -- `p */ t` -> `# p */ t`
example : printComment [35, 42, 47] = [47, 47, 32, 35, 42, 47, 10] := by decide                              -- `#*/` -> `// #*/`
example : printComment [97, 10, 42, 47] = [47, 42, 32, 97, 10, 42, 32, 47, 32, 42, 47, 10] := by decide      -- API-only: marker taken apart

end Confuse
