import Confuse.Lemmas.NoDepM
import Confuse.Lemmas.Reported
import Confuse.Lemmas.Loop
/-!
# C06 — every rejection is reported; an accepted parse says nothing but deprecation notices

The property's first sentence (a rejected parse has told the application something) and its last (an accepted one
has delivered nothing but deprecation notices; nothing at all for a schema without deprecated options), for the
token machine (`cfg_parse_internal`), every schema, every callback behaviour, every token stream.
-/
namespace Confuse

/-- **C06 (rejected ⇒ reported).**  A parse that ends rejected has told the application strictly
more than it knew before: at least one diagnostic was delivered or one callback invoked (a failing
callback is the party that reports).  The only exemption is named: a function option declared
without a function (a NULL `func` in the option table; the C library would call through it), and
then the state in which that option was about to be called is exhibited. -/
theorem C06_rejection_reported (orc : Oracle) (c : Cfg) (text : Bytes) (k0 : Nat) (ts : List LTok)
    (hrej : (parseToks orc (startPM c text k0) ts).status = .rejected) :
    rep (startPM c text k0) < rep (parseToks orc (startPM c text k0) ts) ∨
      ∃ pre post, ts = pre ++ post ∧ ∃ f ∈ (parseToks orc (startPM c text k0) pre).frames.head?, NoCode f :=
  parseToks_reject_reported orc ts _ rfl (startPM_optinv c text k0) hrej

/-- the same from any reachable state, one token at a time: the step that rejects is the step that
reports -/
theorem C06_rejecting_step_reports (orc : Oracle) (m : PM) (tok : Tok) (nl : Nat) (hrun : m.status = .running) (hinv : OptInvM m)
    (hrej : (pstep orc m tok nl).status = .rejected) :
    rep m < rep (pstep orc m tok nl) ∨ ∃ f ∈ m.frames.head?, NoCode f :=
  pstep_reject_reported orc m tok nl hrun hinv hrej

/-- the invariant the previous theorem needs holds in every reachable state -/
theorem C06_invariant_reachable (orc : Oracle) (c : Cfg) (text : Bytes) (k0 : Nat) (ts : List LTok) :
    OptInvM (parseToks orc (startPM c text k0) ts) :=
  parseToks_optinv orc ts _ (startPM_optinv c text k0)

/-- **C06 (accepted ⇒ silent).**  A parse that does not end rejected has delivered nothing but
deprecation notices. -/
theorem C06_accepted_only_notices (orc : Oracle) (c : Cfg) (text : Bytes) (k0 : Nat) (ts : List LTok)
    (hacc : (parseToks orc (startPM c text k0) ts).status ≠ .rejected) :
    ∀ d ∈ (parseToks orc (startPM c text k0) ts).diags, isDep d.cls = true := by
  have h : nd isDep (parseToks orc (startPM c text k0) ts) = [] := parseToks_quiet orc ts (startPM c text k0) hacc
  intro d hd
  simpa using List.filter_eq_nil_iff.1 h d hd

/-- **C06 (accepted ⇒ silent), as the property words it.**  When no option of the schema — at any
depth, declared or instantiated — carries the DEPRECATED flag, a parse that does not end rejected
delivers no diagnostic at all.  (`ndDecls`: the declaration tree has no DEPRECATED flag; the invariant
`NDM` — no frame's tree has one — is kept by every step: `pstep_ndm`.) -/
theorem C06_accepted_silent (orc : Oracle) (decls : List Decl) (flags : Flags) (text : Bytes) (ts : List LTok)
    (hnd : ndDecls decls = true)
    (hacc : (parseToks orc (startPM (cfgInit decls flags) text 0) ts).status ≠ .rejected) :
    (parseToks orc (startPM (cfgInit decls flags) text 0) ts).diags = [] :=
  parseToks_silent orc ts _ (startPM_ndm _ text 0 (cfgInit_nd decls flags hnd)) hacc

/-- the same from any context whose tree is free of the flag (a context that was parsed into
before, modified through the API, …) -/
theorem C06_accepted_silent_any (orc : Oracle) (c : Cfg) (text : Bytes) (k0 : Nat) (ts : List LTok) (hnd : ndCfg c = true)
    (hacc : (parseToks orc (startPM c text k0) ts).status ≠ .rejected) :
    (parseToks orc (startPM c text k0) ts).diags = [] :=
  parseToks_silent orc ts _ (startPM_ndm c text k0 hnd) hacc

/-- … and a deprecation notice is only ever issued for a current option carrying the DEPRECATED flag -/
theorem C06_notice_needs_flag (f : Frame) (h : (depEffect f).1 ≠ []) :
    ∃ r o, f.opt = some r ∧ f.cfg.getOpt r = some o ∧ o.flags.deprecated = true :=
  -- otherwise no deprecated option is pending and `depEffect_id` applies
  Classical.byContradiction fun hn => h <| by
    rw [depEffect_id f fun r o hr ho => Bool.eq_false_iff.2 fun hd => hn ⟨r, o, hr, ho, hd⟩]

/-- the resolver, on which the "unknown option" branch relies: it returns only references that exist,
is silent when it resolves, and speaks when it does not (unless told not to) -/
theorem C06_resolver (c : Cfg) (name : Bytes) :
    (∀ r, (getoptPath c name).ref = some r → (c.getOpt r).isSome ∧ (getoptPath c name).diags = []) ∧
    (name ≠ [] → c.flags.ignoreUnknown = false → c.flags.keystrval = false → (getoptPath c name).ref = none → (getoptPath c name).diags ≠ []) :=
  getoptPath_spec c name

/-! ### the other transitions of the parse loop (`cfg_parse_fp` around `cfg_parse_internal`) -/

/-- `include(...)`: every way it can fail is reported; when it succeeds the invariant carries over
into the included source -/
theorem C06_include_reported (pe : PEnv) (m : PM) (fname : Bytes) (hrun : m.status = .running) (hinv : OptInvM m) :
    ((doInclude pe m fname).status = .rejected → rep m < rep (doInclude pe m fname)) ∧ OptInvM (doInclude pe m fname) := by
  cases hfr : m.frames with
  | nil =>
    simp only [doInclude, hfr]
    exact ⟨fun h => by simp [hrun] at h, fun _ f hf => by simp at hf⟩
  | cons f rest =>
    rw [doInclude_eq pe m fname hfr]
    cases includeTarget pe m.srcs.length fname with
    | error c =>
      exact ⟨fun _ => by simp [rep, rejectWith_eq], fun h => nomatch h⟩
    | ok p =>
      exact ⟨fun h => by simp [hrun] at h, optInvM_of _ _ rest rfl (optInv_setInfo f _ (hinv hrun f (by simp [hfr])))⟩

/-- the end of an included source (position restored, parsing goes on in the includer) keeps the invariant
and says nothing -/
theorem C06_pop_source (m : PM) (f : Frame) (rest : List Frame) (srcs : List Src) (file : Option Bytes) (line : Nat)
    (hfr : m.frames = f :: rest) (hinv : OptInvM m) (hrun : m.status = .running) :
    OptInvM { m with frames := { f with cfg := f.cfg.setInfo { f.cfg.info with filename := file, line := line } } :: rest, srcs := srcs } :=
  optInvM_of _ _ rest rfl (optInv_setInfo f _ (hinv hrun f (by simp [hfr])))

/-- an included source starts at line 1 under its own name, and remembers where the includer was -/
theorem C06_include_restarts (pe : PEnv) (m : PM) (fname xf content : Bytes) (f : Frame) (rest : List Frame)
    (hfr : m.frames = f :: rest) (hdepth : ¬ (m.srcs.length - 1 ≥ pe.maxInc)) (hres : resolveFile pe fname = some xf)
    (hopen : openFile pe xf = some content) :
    ∃ f', (doInclude pe m fname).frames = f' :: rest ∧ f'.cfg.info.filename = some xf ∧ f'.cfg.info.line = 1 ∧
      (doInclude pe m fname).srcs = { rest := content, savedFile := f.cfg.info.filename, savedLine := f.cfg.info.line } :: m.srcs := by
  rw [doInclude_enter pe m fname xf content hfr hdepth hres hopen]
  exact ⟨_, rfl, rfl, rfl, rfl⟩

/-- at the end of an included source the loop goes on in the includer with exactly the remembered
file name and line -/
theorem C06_return_restores (orc : Oracle) (pe : PEnv) (fuel : Nat) (sc : StartCond) (m : PM) (src : Src) (srcs : List Src)
    (f : Frame) (rest : List Frame) (hrun : m.status = .running) (hs : m.srcs = src :: srcs) (hne : srcs ≠ [])
    (hfr : m.frames = f :: rest) (heof : (lexFrom pe.env sc src.rest).tok = .eof) :
    parseLoopFrom orc pe (fuel + 1) sc m =
      parseLoopFrom orc pe fuel .initial
        { m with frames := { f with cfg := f.cfg.setInfo { f.cfg.info with filename := src.savedFile, line := src.savedLine } } :: rest,
                 srcs := srcs } :=
  loop_return orc pe fuel sc m src srcs f rest hrun hs hne hfr heof

/-! ### the hypotheses are met, and the exemption is real -/

private def exDecls : List Decl :=
  [ .mk { name := [97], ty := .int } {} [],
    .mk { name := [112], ty := .ptr } {} [],
    .mk { name := [102], ty := .func } {} [] ]
private def exStart : PM := startPM (cfgInit exDecls {}) [] 0
private def okOrc : Oracle := fun _ _ => .ok

-- `a = x` : rejected with an "invalid integer" diagnostic
example : ((parseToks okOrc exStart [(.str [97], 0), (.eq, 0), (.str [120], 0)]).status,
    rep (parseToks okOrc exStart [(.str [97], 0), (.eq, 0), (.str [120], 0)])) = (.rejected, 1) := by decide +kernel
-- `p = x` for a pointer option declared without a parse callback: rejected, and (since fix F31) reported
example : ((parseToks okOrc exStart [(.str [112], 0), (.eq, 0), (.str [120], 0)]).status,
    (parseToks okOrc exStart [(.str [112], 0), (.eq, 0), (.str [120], 0)]).diags.map (·.cls)) = (.rejected, [.noParseCb]) := by decide +kernel
-- `f ( )` for a function option without a function: the exemption
example : ((parseToks okOrc exStart [(.str [102], 0), (.lparen, 0), (.rparen, 0)]).status,
    rep (parseToks okOrc exStart [(.str [102], 0), (.lparen, 0), (.rparen, 0)])) = (.rejected, 0) := by decide +kernel
-- the schema of these examples has no deprecated option (hypothesis of `C06_accepted_silent`) …
example : ndDecls exDecls = true := by decide
-- … and one that has is told apart
example : ndDecls [.mk { name := [100], ty := .int } { deprecated := true } []] = false := by decide
-- `a = 1` then end of input: accepted, silent
example : ((parseToks okOrc exStart [(.str [97], 0), (.eq, 0), (.str [49], 0), (.eof, 0)]).status,
    (parseToks okOrc exStart [(.str [97], 0), (.eq, 0), (.str [49], 0), (.eof, 0)]).diags.length) = (.accepted, 0) := by decide +kernel

end Confuse
