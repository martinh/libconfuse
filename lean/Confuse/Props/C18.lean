import Confuse.Model.Fault
import Confuse.Lemmas.Path
import Confuse.Props.C09
/-!
# C18 — running out of memory yields an error return, not corruption (store-level operations)

For every option state and EVERY position `k` of the failing allocation request the modelled calls
either complete — then they are exactly the fault-free operation — or report failure, and in both
cases the option stays well-formed (every cell has the option's type; a string cell may be NULL),
hence queryable, printable and releasable.
-/
namespace Confuse

theorem cellsOk_append (o : Opt) (v : Val) (f : Flags) (c : Option Bytes) (h : cellsOk o = true)
    (hv : (match o.ty, v with
      | .int, .int _ => true | .float, .flt _ => true | .bool, .bool _ => true | .str, .str _ => true
      | .ptr, .ptr _ => true | .sec, .sec _ => true | _, _ => false) = true) :
    cellsOk (.mk o.info f o.subs (o.vals ++ [v]) c) = true := by
  obtain ⟨i, fl, s, vs, cm⟩ := o
  simp only [cellsOk, Opt.vals, Opt.ty, Opt.info, List.all_append, List.all_cons, List.all_nil, Bool.and_true, Bool.and_eq_true] at h hv ⊢
  exact ⟨h, hv⟩

theorem cellsOk_set (o : Opt) (v : Val) (k : Nat) (f : Flags) (c : Option Bytes) (h : cellsOk o = true)
    (hv : (match o.ty, v with
      | .int, .int _ => true | .float, .flt _ => true | .bool, .bool _ => true | .str, .str _ => true
      | .ptr, .ptr _ => true | .sec, .sec _ => true | _, _ => false) = true) :
    cellsOk (.mk o.info f o.subs (listSet o.vals k v) c) = true := by
  obtain ⟨i, fl, s, vs, cm⟩ := o
  exact all_listSet _ vs k v h hv

theorem addvalF_cases (o : Opt) (c : Val) (fail : Option Nat) :
    (addvalF o c fail = addvalF o c none ∧ fail ≠ some 0 ∧ fail ≠ some 1) ∨
    ((addvalF o c fail).ok = false ∧ (addvalF o c fail).opt = o ∧ (fail = some 0 ∨ fail = some 1)) := by
  unfold addvalF
  by_cases h0 : fail = some 0
  · simp [h0]
  · by_cases h1 : fail = some 1
    · simp [h1]
    · simp [h0, h1]

/-- **C18 (`cfg_addval`).** Whichever of its two requests fails, the option is exactly as before and
failure is reported; without a failure the cell is appended. -/
theorem C18_addval (o : Opt) (cell : Val) (fail : Option Nat) :
    ((addvalF o cell fail).ok = false → (addvalF o cell fail).opt = o ∧ (fail = some 0 ∨ fail = some 1)) ∧
    ((addvalF o cell fail).ok = true → (addvalF o cell fail).opt.vals = o.vals ++ [cell] ∧ fail ≠ some 0 ∧ fail ≠ some 1) := by
  rcases addvalF_cases o cell fail with ⟨e, h⟩ | ⟨e, h⟩
  · rw [e]; exact ⟨fun h' => (by cases h'), fun _ => ⟨rfl, h⟩⟩
  · exact ⟨fun _ => h, fun h' => by rw [e] at h'; cases h'⟩

/-- what `cfg_opt_setnstr` and `cfg_setopt` do once the text is copied (`pre` requests so far): `cfg_addval` if a
cell is needed, then the store into cell `idx` -/
def cellF (o1 : Opt) (need : Prop) [Decidable need] (idx : Nat) (cell : Val) (pre : Nat) (fail : Option Nat) : FOut :=
  let r : FOut := if need then addvalF o1 cell (shiftFail fail pre) else ⟨o1, true, 0⟩
  if !r.ok then ⟨r.opt, false, pre + r.allocs⟩
  else ⟨.mk r.opt.info { r.opt.flags with modified := true } r.opt.subs (listSet r.opt.vals idx cell) r.opt.comment, true, pre + r.allocs⟩

theorem cellF_none_ok (o1 : Opt) (need : Prop) [Decidable need] (idx : Nat) (cell : Val) (pre : Nat) :
    (cellF o1 need idx cell pre none).ok = true := by
  unfold cellF; by_cases hn : need <;> simp [hn, addvalF, shiftFail]

theorem cellF_cases (o1 : Opt) (need : Prop) [Decidable need] (idx : Nat) (cell : Val) (pre : Nat) (fail : Option Nat) :
    ((cellF o1 need idx cell pre fail).ok = true ∧ (cellF o1 need idx cell pre fail).opt = (cellF o1 need idx cell pre none).opt) ∨
    ((cellF o1 need idx cell pre fail).ok = false ∧ (cellF o1 need idx cell pre fail).opt = o1) := by
  unfold cellF
  by_cases hn : need
  · rcases addvalF_cases o1 cell (shiftFail fail pre) with ⟨h, -⟩ | ⟨h, h', -⟩
    · exact .inl (by simp only [hn, h, if_true]; exact ⟨rfl, rfl⟩)
    · exact .inr (by simp [hn, h, h'])
  · exact .inl (by simp [hn])

/-- a call that reports success under a failing allocator did exactly what the fault-free call does, and that one
succeeds -/
def Completes (F : Option Nat → FOut) : Prop :=
  ∀ fail, (F fail).ok = true → (F none).ok = true ∧ (F fail).opt = (F none).opt

theorem completes_const (r : FOut) : Completes fun _ => r := fun _ h => ⟨h, rfl⟩

theorem Completes.ite {F G : Option Nat → FOut} (c : Prop) [Decidable c] (hF : Completes F) (hG : Completes G) :
    Completes fun fail => if c then F fail else G fail := by
  by_cases hc : c <;> simpa only [hc, if_true, if_false]

theorem Completes.guard {F : Option Nat → FOut} (h : Completes F) (g : Option Nat → Bool) (hg : g none = false)
    (r : Option Nat → FOut) (hr : ∀ fail, (r fail).ok = false) :
    Completes fun fail => if g fail then r fail else F fail := fun fail hok => by
  by_cases hf : g fail = true
  · simp only [hf, if_true, hr] at hok; cases hok
  · simp only [hf, hg] at hok ⊢; exact h fail hok

theorem completes_addvalF (o : Opt) (c : Val) : Completes (addvalF o c) := fun fail h => by
  rcases addvalF_cases o c fail with ⟨e, -⟩ | ⟨e, -⟩
  · rw [e]; exact ⟨rfl, rfl⟩
  · rw [e] at h; cases h

theorem completes_cellF (o1 : Opt) (need : Prop) [Decidable need] (idx : Nat) (cell : Val) (pre : Nat) :
    Completes (cellF o1 need idx cell pre) := fun fail h => by
  rcases cellF_cases o1 need idx cell pre fail with h' | h'
  · exact ⟨cellF_none_ok .., h'.2⟩
  · rw [h'.1] at h; cases h

theorem setoptPlainF_eq (o : Opt) (cv : Conv) : ∃ pre cell need, ∃ (_ : Decidable need), ∃ idx, ∀ fail, setoptPlainF o cv fail =
    if pre == 1 && fail == some 0 then ⟨o, false, 1⟩ else cellF (dropDefaults o).1 need idx cell pre fail :=
  ⟨_, _, _, _, _, fun _ => rfl⟩

theorem completes_setoptPlainF (o : Opt) (cv : Conv) : Completes (setoptPlainF o cv) := by
  obtain ⟨pre, cell, need, _, idx, e⟩ := setoptPlainF_eq o cv
  rw [funext e]
  exact (completes_cellF _ _ _ _ _).guard (fun fail => pre == 1 && fail == some 0) (by simp) _ fun _ => rfl

theorem setnStrF_eq (o : Opt) (s : Option Bytes) (i : Nat) : ∃ pre need, ∃ (_ : Decidable need), ∃ idx, ∀ fail, setnStrF o s i fail =
    if pre == 1 && fail == some 0 then ⟨o, false, 1⟩
    else if i != 0 && !o.flags.list && !o.flags.multi then ⟨o, false, pre⟩
    else cellF (dropDefaults o).1 need idx (.str s) pre fail :=
  ⟨_, _, _, _, fun _ => rfl⟩

/-- **C18 (`cfg_setopt` from text, plain options).** For EVERY position `k` of the failing request:
(1) the call completes exactly when no request of its own failed, and then the option is the one the fault-free
call produces; (2) since fix F42 the text is copied before the option is touched, so when that first request
fails NOTHING has changed - not even the pristine defaults are gone; (3) a later failure (while the value cell is
added) reports failure with the defaults dropped and nothing else changed. -/
theorem C18_setopt_plain (o : Opt) (cv : Conv) (fail : Option Nat) :
    ((setoptPlainF o cv fail).ok = true → (setoptPlainF o cv fail).opt = (setoptPlainF o cv none).opt) ∧
    ((∃ s, cv = .str s) → fail = some 0 → (setoptPlainF o cv fail).ok = false ∧ (setoptPlainF o cv fail).opt = o) ∧
    ((setoptPlainF o cv fail).ok = false → (setoptPlainF o cv fail).opt = o ∨ (setoptPlainF o cv fail).opt = (dropDefaults o).1) := by
  obtain ⟨pre, cell, need, _, idx, e⟩ := setoptPlainF_eq o cv
  refine ⟨fun h => (completes_setoptPlainF o cv fail h).2, ?_, ?_⟩
  · rintro ⟨s, rfl⟩ rfl; exact ⟨rfl, rfl⟩
  · simp only [e]
    split
    · exact fun _ => .inl rfl
    · intro h; rcases cellF_cases (dropDefaults o).1 need idx cell pre fail with h' | h'
      · rw [h'.1] at h; cases h
      · exact .inr h'.2

theorem cellsOk_cellF (o1 : Opt) (need : Prop) [Decidable need] (idx : Nat) (cell : Val) (pre : Nat) (fail : Option Nat)
    (h : cellsOk o1 = true)
    (hv : (match o1.ty, cell with
      | .int, .int _ => true | .float, .flt _ => true | .bool, .bool _ => true | .str, .str _ => true
      | .ptr, .ptr _ => true | .sec, .sec _ => true | _, _ => false) = true) :
    cellsOk (cellF o1 need idx cell pre fail).opt = true := by
  rcases cellF_cases o1 need idx cell pre fail with h' | h'
  · rw [h'.2]; unfold cellF
    by_cases hn : need
    · simp only [hn, if_true]
      exact cellsOk_set (.mk o1.info _ o1.subs (o1.vals ++ [cell]) o1.comment) cell idx _ _ (cellsOk_append o1 cell _ _ h hv) hv
    · simp only [hn, if_false]; exact cellsOk_set o1 cell idx _ _ h hv
  · rw [h'.2]; exact h

/-- **C18 (string setter: no dangling or half-built cell).** After `cfg_opt_setnstr` with any failing
request every cell of a string option is still a string cell (possibly NULL): the new cell exists
only as a NULL string, never as a freed or uninitialised one. -/
theorem C18_setnStr_wellformed (o : Opt) (s : Option Bytes) (i : Nat) (fail : Option Nat)
    (hty : o.ty = .str) (hwf : cellsOk o = true) (hr : o.flags.reset = false) :
    cellsOk (setnStrF o s i fail).opt = true := by
  obtain ⟨pre, need, _, idx, e⟩ := setnStrF_eq o s i
  rw [e, dropDefaults_of_not_reset o hr]
  split
  · exact hwf
  · split
    · exact hwf
    · exact cellsOk_cellF _ _ _ _ _ _ hwf (by rw [hty])

/-- **C18 (`cfg_opt_setcomment`).** -/
theorem C18_setcomment (o : Opt) (c : Bytes) (fail : Option Nat) :
    ((setcommentF o c fail).ok = false → (setcommentF o c fail).opt = o) ∧
    ((setcommentF o c fail).ok = true → (setcommentF o c fail).opt.comment = some c ∧ (setcommentF o c fail).opt.vals = o.vals) := by
  unfold setcommentF
  split
  · exact ⟨fun _ => rfl, fun h => (by cases h)⟩
  · exact ⟨fun h => (by cases h), fun _ => ⟨rfl, rfl⟩⟩

theorem FOut.eta_ok (r : FOut) : (if r.ok then ⟨r.opt, true, r.allocs⟩ else ⟨r.opt, false, r.allocs⟩ : FOut) = r := by
  obtain ⟨o, ok, a⟩ := r; cases ok <;> rfl

theorem setnNumF_eq (o : Opt) (v : Val) (i : Nat) (fail : Option Nat) : setnNumF o v i fail =
    if i != 0 && !o.flags.list && !o.flags.multi then ⟨o, false, 0⟩
    else if i ≥ (dropDefaults o).1.vals.length then addvalF (dropDefaults o).1 v fail
    else ⟨.mk (dropDefaults o).1.info { (dropDefaults o).1.flags with modified := true } (dropDefaults o).1.subs
      (listSet (dropDefaults o).1.vals i v) (dropDefaults o).1.comment, true, 0⟩ := by
  simp only [setnNumF, FOut.eta_ok]

theorem addvalF_allocs_le (o : Opt) (c : Val) (fail : Option Nat) : (addvalF o c fail).allocs ≤ 2 := by
  unfold addvalF
  split
  · exact Nat.le_succ 1
  · split <;> exact Nat.le_refl 2

/-- **C18 (no fault = the ordinary operation).** -/
theorem C18_setnNum_nofault (o : Opt) (v : Val) (i : Nat) :
    (setnNumF o v i none).opt = (setnVal o v i).1 ∧ (setnNumF o v i none).ok = (setnVal o v i).2.1 := by
  rw [setnNumF_eq, setnVal_eq, aSet]
  split
  · exact ⟨rfl, rfl⟩
  · split <;> exact ⟨rfl, rfl⟩

/-- **C18 (numeric setters).** For every `k`: failure is reported only when one of the (at most two)
requests failed, and then the only change is that pristine defaults were dropped — every remaining
cell still has the option's type. -/
theorem C18_setnNum (o : Opt) (v : Val) (i : Nat) (fail : Option Nat) (hwf : cellsOk o = true)
    (hv : (match o.ty, v with
      | .int, .int _ => true | .float, .flt _ => true | .bool, .bool _ => true | .str, .str _ => true
      | .ptr, .ptr _ => true | .sec, .sec _ => true | _, _ => false) = true)
    (hidx : i = 0 ∨ o.flags.list = true ∨ o.flags.multi = true) :
    ((setnNumF o v i fail).ok = false → (setnNumF o v i fail).opt = (dropDefaults o).1 ∧ (fail = some 0 ∨ fail = some 1)) ∧
    (setnNumF o v i fail).allocs ≤ 2 := by
  have hn : (i != 0 && !o.flags.list && !o.flags.multi) = false := by
    rcases hidx with h | h | h <;> simp [h]
  simp only [setnNumF_eq, hn, Bool.false_eq_true, if_false]
  split
  · exact ⟨(C18_addval _ v fail).1, addvalF_allocs_le ..⟩
  · exact ⟨fun h => (by cases h), Nat.zero_le _⟩

theorem completes_setnStrF (o : Opt) (s : Option Bytes) (i : Nat) : Completes (setnStrF o s i) := by
  obtain ⟨pre, need, _, idx, e⟩ := setnStrF_eq o s i
  rw [funext e]
  exact ((completes_const _).ite _ (completes_cellF _ _ _ _ _)).guard (fun fail => pre == 1 && fail == some 0)
    (by simp) _ fun _ => rfl

theorem completes_setnNumF (o : Opt) (v : Val) (i : Nat) : Completes (setnNumF o v i) := by
  rw [funext (setnNumF_eq o v i)]
  exact (completes_const _).ite _ ((completes_addvalF _ _).ite _ (completes_const _))

theorem completes_addOneF (o : Opt) : ∀ v, Completes (addOneF o v)
  | .str s => completes_setnStrF o s _
  | .int _ | .flt _ | .bool _ | .ptr _ | .sec _ => completes_setnNumF o _ _

theorem completes_addlistF : ∀ (vs : List Val) (o : Opt), Completes (addlistF o vs)
  | [], _, _, _ => ⟨rfl, rfl⟩
  | v :: vs, o, fail, h => by
    unfold addlistF at h ⊢
    by_cases hok : (addOneF o v fail).ok = true
    · obtain ⟨hn, e⟩ := completes_addOneF o v fail hok
      simp only [hok, hn, e, Bool.not_true, Bool.false_eq_true, if_false] at h ⊢
      exact completes_addlistF vs _ _ h
    · simp [hok] at h

/-- **C18 (`cfg_setlist` / `cfg_addlist`: completes or reports failure).** For EVERY position of the failing request and
any number of elements: if the call reports success, the option is exactly what the fault-free call produces. -/
theorem C18_addlist_completes (vs : List Val) : ∀ (o : Opt) (fail : Option Nat),
    (addlistF o vs fail).ok = true → (addlistF o vs fail).opt = (addlistF o vs none).opt :=
  fun o fail h => (completes_addlistF vs o fail h).2

end Confuse
