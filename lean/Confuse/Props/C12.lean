import Confuse.Lemmas.Parser
import Confuse.Lemmas.Resolve
/-!
# C12 — with ignore-unknown set, undeclared items are skipped cleanly

`C12_skip_*`: from an item boundary (state 0 of any frame at any depth) an undeclared name followed
by any well-formed item body — a value, a list, an append, a call, a plain or titled section whose
content is *any* brace-balanced token sequence of any size and nesting — brings the machine back to
the same boundary with the same tree, no diagnostic and no new stack frame.
-/
namespace Confuse

def sumNl (ts : List (Tok × Nat)) : Nat := (ts.map (·.2)).sum

/-- brace depth after a token sequence inside an unknown section; `none` if the section would
close early -/
def depthAfter : Nat → List (Tok × Nat) → Option Nat
  | d, [] => some d
  | d, (.lbrace, _) :: ts => depthAfter (d + 1) ts
  | d, (.rbrace, _) :: ts => if d ≤ 1 then none else depthAfter (d - 1) ts
  | d, _ :: ts => depthAfter d ts

/-- **C12 (inside an unknown section).** Any token sequence whose braces stay open is swallowed:
only the brace depth (and the line) of the current frame change. -/
theorem C12_skip_body (orc : Oracle) (ts : List (Tok × Nat)) : ∀ (m : PM) (f : Frame) (rest : List Frame) (d d' : Nat),
    m.status = .running → m.frames = f :: rest → f.state = .s12 → f.depth = d →
    (∀ t ∈ ts, t.1.inner = true) → depthAfter d ts = some d' →
    parseToks orc m ts = { m with frames := { f.addLine (sumNl ts) with depth := d' } :: rest } := by
  induction ts with
  | nil =>
    intro m f rest d d' _ hfr _ hd _ hda
    simp only [depthAfter, Option.some.injEq] at hda
    subst hda hd
    simp only [parseToks_nil, sumNl, List.map_nil, List.sum_nil, addLine_zero]
    cases m; cases hfr; rfl
  | cons t ts ih =>
    intro m f rest d d' hrun hfr hs hd hin hda
    obtain ⟨tok, nl⟩ := t
    obtain ⟨hin1, hin2⟩ := List.forall_mem_cons.1 hin
    have hsum : sumNl ((tok, nl) :: ts) = nl + sumNl ts := by simp [sumNl]
    rw [parseToks_cons]
    have hne : f.state ≠ .s0 := by rw [hs]; simp
    have step : ∃ d1, pstep orc m tok nl = { m with frames := { f.addLine nl with depth := d1 } :: rest } ∧
        depthAfter d ((tok, nl) :: ts) = depthAfter d1 ts := by
      cases tok with
      | eof => simp [Tok.inner] at hin1
      | err e => simp [Tok.inner] at hin1
      | comment v =>
        refine ⟨d, ?_, by simp [depthAfter]⟩
        rw [pstep_comment_skip orc m f rest v nl hrun hfr hne]
        simp [Frame.addLine, hd]
      | lbrace =>
        refine ⟨d + 1, ?_, by simp [depthAfter]⟩
        rw [pstep_running orc m f rest .lbrace nl hrun hfr rfl (Or.inl rfl)]
        simp [hs, stepFn, step_s12, Frame.addLine, hd]
      | rbrace =>
        by_cases hle : d ≤ 1
        · simp [depthAfter, hle] at hda
        · refine ⟨d - 1, ?_, by simp [depthAfter, hle]⟩
          rw [pstep_running orc m f rest .rbrace nl hrun hfr rfl (Or.inl rfl)]
          simp [hs, stepFn, step_s12, Frame.addLine, hd, hle]
      | _ =>
        refine ⟨d, ?_, by simp [depthAfter]⟩
        rw [pstep_running orc m f rest _ nl hrun hfr rfl (Or.inl rfl)]
        simp [hs, stepFn, step_s12, Frame.addLine, hd]
    obtain ⟨d1, hstep, hda1⟩ := step
    rw [hstep]
    have := ih { m with frames := { f.addLine nl with depth := d1 } :: rest } { f.addLine nl with depth := d1 } rest d1 d'
      hrun rfl (by simp [Frame.addLine, hs]) rfl hin2 (by rw [← hda1]; exact hda)
    rw [this, hsum]
    simp [Frame.addLine, Nat.add_assoc]

/-- skipping up to a closing token (`)` of a call, `}` of a list) -/
theorem skip_until (orc : Oracle) (ts : List (Tok × Nat)) : ∀ (m : PM) (f : Frame) (rest : List Frame) (ig : Ignore) (close : Tok),
    m.status = .running → m.frames = f :: rest → f.state = .s13 → f.ignore = ig →
    (ig = .rparen ∧ close = .rparen ∨ ig = .rbrace ∧ close = .rbrace) →
    (∀ t ∈ ts, t.1.inner = true ∧ t.1 ≠ close) →
    parseToks orc m ts = { m with frames := f.addLine (sumNl ts) :: rest } := by
  induction ts with
  | nil =>
    intro m f rest ig close _ hfr _ _ _ _
    simp only [parseToks_nil, sumNl, List.map_nil, List.sum_nil, addLine_zero]
    cases m; cases hfr; rfl
  | cons t ts ih =>
    intro m f rest ig close hrun hfr hs hig hcl hin
    obtain ⟨tok, nl⟩ := t
    obtain ⟨h1, hin2⟩ := List.forall_mem_cons.1 hin
    have hne : f.state ≠ .s0 := by rw [hs]; simp
    rw [parseToks_cons]
    have step : pstep orc m tok nl = { m with frames := f.addLine nl :: rest } := by
      cases tok with
      | eof => simp [Tok.inner] at h1
      | err e => simp [Tok.inner] at h1
      | comment v => exact pstep_comment_skip orc m f rest v nl hrun hfr hne
      | rparen =>
        rw [pstep_running orc m f rest .rparen nl hrun hfr rfl (Or.inl rfl)]
        rcases hcl with ⟨h, hc⟩ | ⟨h, hc⟩
        · subst hc; simp at h1
        · simp [hs, stepFn, step_s13, Frame.addLine, hig, h]
      | rbrace =>
        rw [pstep_running orc m f rest .rbrace nl hrun hfr rfl (Or.inl rfl)]
        rcases hcl with ⟨h, hc⟩ | ⟨h, hc⟩
        · simp [hs, stepFn, step_s13, Frame.addLine, hig, h]
        · subst hc; simp at h1
      | _ => rw [pstep_running orc m f rest _ nl hrun hfr rfl (Or.inl rfl)]; simp [hs, stepFn, step_s13]
    rw [step]
    have := ih { m with frames := f.addLine nl :: rest } (f.addLine nl) rest ig close hrun rfl
      (by simp [Frame.addLine, hs]) (by simp [Frame.addLine, hig]) hcl hin2
    rw [this]
    simp [sumNl, addLine_addLine]

/-- an undeclared name under IGNORE_UNKNOWN: resolution fails quietly -/
def UnknownHere (f : Frame) (name : Bytes) : Prop :=
  f.state = .s0 ∧ f.cfg.flags.ignoreUnknown = true ∧
  (getoptPath f.cfg name).ref = none ∧ (getoptPath f.cfg name).diags = [] ∧
  (∀ r o, f.opt = some r → f.cfg.getOpt r = some o → o.flags.deprecated = false)

/-- the frame an unknown item leaves behind: same tree, back at the item boundary -/
def Frame.skipped (f : Frame) (n : Nat) : Frame := { f.addLine n with opt := none, comment := none, state := .s0 }

/-- the name of an undeclared item moves the frame into the discard states, silently -/
theorem enter_skip (orc : Oracle) (m : PM) (f : Frame) (rest : List Frame) (name : Bytes) (nl : Nat)
    (hrun : m.status = .running) (hfr : m.frames = f :: rest) (hu : UnknownHere f name) :
    pstep orc m (.str name) nl = { m with frames := { f.addLine nl with opt := none, state := .s10 } :: rest } := by
  obtain ⟨hs, hig, href, hdiag, hdep⟩ := hu
  rw [pstep_running orc m f rest (.str name) nl hrun hfr rfl (Or.inl rfl)]
  simp only [hs, stepFn]
  unfold step_s0
  rw [handleDeprecated_id _ _ (noPending_addLine f nl hdep)]
  have hp : getoptPath (f.addLine nl).cfg name = getoptPath f.cfg name := getoptPath_setLine f.cfg _ name
  simp only [hp, href, hdiag]
  have hig' : (f.addLine nl).cfg.flags.ignoreUnknown = true := hig
  simp [hig', PM.addDiags]

theorem skip_asg (orc : Oracle) (m : PM) (f : Frame) (rest : List Frame) (name : Bytes) (asg : Tok) (n1 n2 : Nat)
    (hrun : m.status = .running) (hfr : m.frames = f :: rest) (hu : UnknownHere f name) (hasg : asg = .eq ∨ asg = .pluseq) :
    pstep orc (pstep orc m (.str name) n1) asg n2 =
      { m with frames := { (f.addLine n1).addLine n2 with opt := none, comment := none, state := .s14 } :: rest } := by
  rw [enter_skip orc m f rest name n1 hrun hfr hu]
  rcases hasg with rfl | rfl
  · rw [pstep_at orc m _ rest .eq n2 hrun rfl (Or.inl rfl)]
    simp [stepFn, step_s10, Frame.addLine]
  · rw [pstep_at orc m _ rest .pluseq n2 hrun rfl (Or.inl rfl)]
    simp [stepFn, step_s10, Frame.addLine]

/-- **C12 (assignment / append).** `unknown = value` and `unknown += value`. -/
theorem C12_skip_value (orc : Oracle) (m : PM) (f : Frame) (rest : List Frame) (name v : Bytes) (asg : Tok) (n1 n2 n3 : Nat)
    (hrun : m.status = .running) (hfr : m.frames = f :: rest) (hu : UnknownHere f name)
    (hasg : asg = .eq ∨ asg = .pluseq) :
    parseToks orc m [(.str name, n1), (asg, n2), (.str v, n3)] =
      { m with frames := f.skipped (n1 + n2 + n3) :: rest } := by
  simp only [parseToks_cons, parseToks_nil]
  rw [skip_asg orc m f rest name asg n1 n2 hrun hfr hu hasg]
  rw [pstep_at orc m _ rest (.str v) n3 hrun rfl (Or.inl rfl)]
  simp [stepFn, step_s14, Frame.addLine, Frame.skipped, Nat.add_assoc]

theorem skip_close13 (orc : Oracle) (m : PM) (F : Frame) (rest : List Frame) (body : List (Tok × Nat)) (ig : Ignore) (close : Tok) (n : Nat)
    (hrun : m.status = .running) (hs : F.state = .s13) (hig : F.ignore = ig)
    (hcl : ig = .rparen ∧ close = .rparen ∨ ig = .rbrace ∧ close = .rbrace) (hbody : ∀ t ∈ body, t.1.inner = true ∧ t.1 ≠ close) :
    pstep orc (parseToks orc { m with frames := F :: rest } body) close n =
      { m with frames := { F.addLine (sumNl body + n) with ignore := .none, state := .s0 } :: rest } := by
  rw [skip_until orc body { m with frames := F :: rest } F rest ig close hrun rfl hs hig hcl hbody]
  rcases hcl with ⟨rfl, rfl⟩ | ⟨rfl, rfl⟩
  · rw [pstep_at orc m _ rest .rparen n hrun rfl (Or.inl rfl)]
    simp [stepFn, step_s13, Frame.addLine, hs, hig, Nat.add_assoc]
  · rw [pstep_at orc m _ rest .rbrace n hrun rfl (Or.inl rfl)]
    simp [stepFn, step_s13, Frame.addLine, hs, hig, Nat.add_assoc]

theorem skip_close12 (orc : Oracle) (m : PM) (F : Frame) (rest : List Frame) (body : List (Tok × Nat)) (n : Nat)
    (hrun : m.status = .running) (hs : F.state = .s12) (hd : F.depth = 1)
    (hin : ∀ t ∈ body, t.1.inner = true) (hbal : depthAfter 1 body = some 1) :
    pstep orc (parseToks orc { m with frames := F :: rest } body) .rbrace n =
      { m with frames := { F.addLine (sumNl body + n) with depth := 0, state := .s0 } :: rest } := by
  rw [C12_skip_body orc body { m with frames := F :: rest } F rest 1 1 hrun rfl hs hd hin hbal,
    pstep_at orc m _ rest .rbrace n hrun rfl (Or.inl rfl)]
  simp [stepFn, step_s12, Frame.addLine, hs, Nat.add_assoc]

/-- **C12 (list / appended list).** `unknown = { … }`, `unknown += { … }` with any tokens but `}` inside. -/
theorem C12_skip_list (orc : Oracle) (m : PM) (f : Frame) (rest : List Frame) (name : Bytes) (asg : Tok) (n1 n2 n3 n4 : Nat)
    (body : List (Tok × Nat))
    (hrun : m.status = .running) (hfr : m.frames = f :: rest) (hu : UnknownHere f name)
    (hasg : asg = .eq ∨ asg = .pluseq) (hbody : ∀ t ∈ body, t.1.inner = true ∧ t.1 ≠ .rbrace) :
    parseToks orc m ([(.str name, n1), (asg, n2), (.lbrace, n3)] ++ body ++ [(.rbrace, n4)]) =
      { m with frames := { f.skipped (n1 + n2 + n3 + sumNl body + n4) with ignore := .none } :: rest } := by
  rw [parseToks_append, parseToks_append]
  simp only [parseToks_cons, parseToks_nil]
  rw [skip_asg orc m f rest name asg n1 n2 hrun hfr hu hasg, pstep_at orc m _ rest .lbrace n3 hrun rfl (Or.inl rfl)]
  simp only [stepFn, step_s14]
  rw [skip_close13 orc m _ rest body .rbrace .rbrace n4 hrun rfl rfl (Or.inr ⟨rfl, rfl⟩) hbody]
  simp [Frame.addLine, Frame.skipped, Nat.add_assoc]

/-- **C12 (function call).** `unknown( … )` with any tokens but `)` inside. -/
theorem C12_skip_call (orc : Oracle) (m : PM) (f : Frame) (rest : List Frame) (name : Bytes) (n1 n2 n3 : Nat)
    (body : List (Tok × Nat))
    (hrun : m.status = .running) (hfr : m.frames = f :: rest) (hu : UnknownHere f name)
    (hbody : ∀ t ∈ body, t.1.inner = true ∧ t.1 ≠ .rparen) :
    parseToks orc m ([(.str name, n1), (.lparen, n2)] ++ body ++ [(.rparen, n3)]) =
      { m with frames := { f.skipped (n1 + n2 + sumNl body + n3) with ignore := .none } :: rest } := by
  rw [parseToks_append, parseToks_append]
  simp only [parseToks_cons, parseToks_nil]
  rw [enter_skip orc m f rest name n1 hrun hfr hu, pstep_at orc m _ rest .lparen n2 hrun rfl (Or.inl rfl)]
  simp only [stepFn, step_s10]
  rw [skip_close13 orc m _ rest body .rparen .rparen n3 hrun rfl rfl (Or.inl ⟨rfl, rfl⟩) hbody]
  simp [Frame.addLine, Frame.skipped, Nat.add_assoc]

/-- **C12 (plain section).** `unknown { … }` around any brace-balanced content, of any size and depth. -/
theorem C12_skip_section (orc : Oracle) (m : PM) (f : Frame) (rest : List Frame) (name : Bytes) (n1 n2 n3 : Nat)
    (body : List (Tok × Nat))
    (hrun : m.status = .running) (hfr : m.frames = f :: rest) (hu : UnknownHere f name)
    (hin : ∀ t ∈ body, t.1.inner = true) (hbal : depthAfter 1 body = some 1) :
    parseToks orc m ([(.str name, n1), (.lbrace, n2)] ++ body ++ [(.rbrace, n3)]) =
      { m with frames := { f.skipped (n1 + n2 + sumNl body + n3) with depth := 0 } :: rest } := by
  rw [parseToks_append, parseToks_append]
  simp only [parseToks_cons, parseToks_nil]
  rw [enter_skip orc m f rest name n1 hrun hfr hu, pstep_at orc m _ rest .lbrace n2 hrun rfl (Or.inl rfl)]
  simp only [stepFn, step_s10]
  rw [skip_close12 orc m _ rest body n3 hrun rfl rfl hin hbal]
  simp [Frame.addLine, Frame.skipped, Nat.add_assoc]

/-- **C12 (titled section).** `unknown title { … }`. -/
theorem C12_skip_titled_section (orc : Oracle) (m : PM) (f : Frame) (rest : List Frame) (name title : Bytes) (n1 n2 n3 n4 : Nat)
    (body : List (Tok × Nat))
    (hrun : m.status = .running) (hfr : m.frames = f :: rest) (hu : UnknownHere f name)
    (hin : ∀ t ∈ body, t.1.inner = true) (hbal : depthAfter 1 body = some 1) :
    parseToks orc m ([(.str name, n1), (.str title, n2), (.lbrace, n3)] ++ body ++ [(.rbrace, n4)]) =
      { m with frames := { f.skipped (n1 + n2 + n3 + sumNl body + n4) with depth := 0 } :: rest } := by
  rw [parseToks_append, parseToks_append]
  simp only [parseToks_cons, parseToks_nil]
  rw [enter_skip orc m f rest name n1 hrun hfr hu, pstep_at orc m _ rest (.str title) n2 hrun rfl (Or.inl rfl)]
  simp only [stepFn, step_s10]
  rw [pstep_at orc m _ rest .lbrace n3 hrun rfl (Or.inl rfl)]
  simp only [stepFn, step_s11]
  rw [skip_close12 orc m _ rest body n4 hrun rfl rfl hin hbal]
  simp [Frame.addLine, Frame.skipped, Nat.add_assoc]

/-- what "skipped cleanly" means for the whole machine: still running, same number of frames (no
recursion per nesting level), same logs (no diagnostic, no callback), the top frame back in state 0
with the same tree. -/
theorem C12_clean (m : PM) (f : Frame) (rest : List Frame) (f' : Frame) (n : Nat)
    (h : f'.cfg = (f.skipped n).cfg ∧ f'.state = .s0 ∧ f'.level = f.level) :
    let m' : PM := { m with frames := f' :: rest }
    m'.status = m.status ∧ m'.diags = m.diags ∧ m'.trace = m.trace ∧ m'.frames.length = (f :: rest).length ∧
    f'.cfg.opts = f.cfg.opts ∧ f'.state = .s0 := by
  obtain ⟨h1, h2, _⟩ := h
  refine ⟨rfl, rfl, rfl, by simp, ?_, h2⟩
  rw [h1]
  rfl

theorem depthAfter_append (a b : List (Tok × Nat)) : ∀ d, depthAfter d (a ++ b) = (depthAfter d a).bind (fun d' => depthAfter d' b) := by
  induction a with
  | nil => intro d; simp [depthAfter]
  | cons t ts ih =>
    intro d
    obtain ⟨tok, n⟩ := t
    cases tok <;> simp only [List.cons_append, depthAfter, ih]
    split <;> simp

/-- nested sections of any depth are brace-balanced (so `C12_skip_section` covers depth 10^5 as well as 1) -/
theorem depthAfter_nest (k : Nat) (inner : List (Tok × Nat)) : ∀ (d : Nat), d ≥ 1 → depthAfter (d + k) inner = some (d + k) →
    depthAfter d (List.replicate k (.lbrace, 0) ++ inner ++ List.replicate k (.rbrace, 0)) = some d := by
  induction k with
  | zero => intro d _ h; simpa using h
  | succ k ih =>
    intro d hd h
    have h' : depthAfter (d + 1 + k) inner = some (d + 1 + k) := by
      have : d + (k + 1) = d + 1 + k := by omega
      rw [this] at h; exact h
    have := ih (d + 1) (by omega) h'
    rw [List.replicate_succ, List.replicate_succ']
    simp only [List.cons_append, depthAfter]
    have e : List.replicate k (Tok.lbrace, 0) ++ inner ++ (List.replicate k (Tok.rbrace, 0) ++ [(Tok.rbrace, 0)]) =
        (List.replicate k (Tok.lbrace, 0) ++ inner ++ List.replicate k (Tok.rbrace, 0)) ++ [(Tok.rbrace, 0)] := by
      simp [List.append_assoc]
    rw [e, depthAfter_append, this]
    have hle : ¬ (d + 1 ≤ 1) := by omega
    simp [depthAfter, hle]

/-- non-vacuity: a thousand nested empty unknown sections form a valid section body -/
example : depthAfter 1 (List.replicate 1000 (.lbrace, 0) ++ [] ++ List.replicate 1000 (.rbrace, 0)) = some 1 :=
  depthAfter_nest 1000 [] 1 (by omega) (by simp [depthAfter])

/-- under IGNORE_UNKNOWN path resolution never reports anything -/
theorem getoptPath_quiet (c : Cfg) (name : Bytes) (hq : c.flags.ignoreUnknown = true) : (getoptPath c name).diags = [] :=
  getoptPath_quiet' c name (Or.inl hq)

/-- so "undeclared here" needs no separate quietness assumption -/
theorem unknownHere_of (f : Frame) (name : Bytes) (hs : f.state = .s0) (hq : f.cfg.flags.ignoreUnknown = true)
    (href : (getoptPath f.cfg name).ref = none) (hdep : noPendingDeprecated f) : UnknownHere f name :=
  ⟨hs, hq, href, getoptPath_quiet f.cfg name hq, hdep⟩

/-- **C12 (flag off).** Without IGNORE_UNKNOWN (and outside free-form sections) the same name is
rejected on the spot. -/
theorem C12_flag_off (orc : Oracle) (m : PM) (f : Frame) (rest : List Frame) (name : Bytes) (nl : Nat)
    (hrun : m.status = .running) (hfr : m.frames = f :: rest) (hs : f.state = .s0)
    (hoff : f.cfg.flags.ignoreUnknown = false) (hkv : f.cfg.flags.keystrval = false)
    (href : (getoptPath f.cfg name).ref = none) (hdep : noPendingDeprecated f) :
    (pstep orc m (.str name) nl).status = .rejected := by
  rw [pstep_running orc m f rest (.str name) nl hrun hfr rfl (Or.inl rfl)]
  simp only [hs, stepFn]
  unfold step_s0
  rw [handleDeprecated_id _ _ (noPending_addLine f nl hdep)]
  have hp : getoptPath (f.addLine nl).cfg name = getoptPath f.cfg name := getoptPath_setLine f.cfg _ name
  have h1 : (f.addLine nl).cfg.flags.ignoreUnknown = false := hoff
  have h2 : (f.addLine nl).cfg.flags.keystrval = false := hkv
  simp only [hp, href, h1, h2]
  -- neither skipped nor added as a free-form key: rejected, with the resolver's diagnostic or one of the machine's own
  rw [if_neg Bool.false_ne_true, if_neg Bool.false_ne_true]
  split <;> rfl

end Confuse
