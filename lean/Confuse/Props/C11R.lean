import Confuse.Props.C11
import Confuse.Props.C05
/-!
# C11 — multi-step paths resolve like step-by-step navigation

`renderPath steps leaf` writes a path in the mini-language (`name`, `name=qualifier`, joined by `|`,
the qualifier plain or `'quoted'`); `walk` navigates one level at a time with the single-level
accessors.  `C11_resolve`: the resolver on the rendered path is the walk, for every path length.
-/
namespace Confuse

/-- the qualifier of a path step: nothing, plain text (an index or a simple title), or any title in
quoted form -/
inductive Qual | none | plain (t : Bytes) | quoted (t : Bytes)

def Qual.text : Qual → Option Bytes
  | .none => Option.none | .plain t => some t | .quoted t => some t

def Qual.render : Qual → Bytes
  | .none => [] | .plain t => c_eq :: t | .quoted t => c_eq :: quoteTitle t

/-- what may be written unquoted: non-empty, no `|`, not starting with a quote -/
def Qual.ok : Qual → Prop
  | .none => True
  | .plain t => t ≠ [] ∧ t.head? ≠ some c_sq ∧ ∀ c ∈ t, c ≠ c_pipe
  | .quoted _ => True

structure PStep where
  name : Bytes
  qual : Qual

def renderPath : List PStep → Bytes → Bytes
  | [], leaf => leaf
  | s :: ss, leaf => s.name ++ s.qual.render ++ c_pipe :: renderPath ss leaf

/-- the instance a qualifier selects, by the option's kind: none → the first; on a titled section
the text is a title, otherwise a number (as `strtol` reads it, whole text consumed) -/
def instOf (o : Opt) : Option Bytes → Int
  | none => 0
  | some t =>
    if !o.flags.multi then -1
    else if o.flags.title then (match gettsecidx o t with | some k => (k : Int) | none => -1)
    else (if (strtolC t 0).rest.isEmpty then (strtolC t 0).val else -1)

/-- step-by-step navigation with the single-level accessors -/
def walk : Cfg → List (Nat × Nat) → List PStep → Bytes → Option OptRef
  | c, acc, [], leaf => (getoptLeaf c leaf).map (fun i => ⟨acc, i⟩)
  | c, acc, s :: ss, leaf =>
    match pathOpt c s.name with
    | none => none
    | some (oi, o) =>
      match pathInst o (instOf o s.qual.text) with
      | none => none
      | some (ii, sub) => walk sub (acc ++ [(oi, ii)]) ss leaf

theorem renderPath_head (ss : List PStep) (leaf : Bytes) (hleaf : plainName leaf) (hss : ∀ s ∈ ss, plainName s.name) :
    ∃ c cs, renderPath ss leaf = c :: cs ∧ isSep c = false := by
  cases ss with
  | nil =>
    obtain ⟨hne, hs⟩ := hleaf
    cases leaf with
    | nil => exact absurd rfl hne
    | cons c cs => exact ⟨c, cs, rfl, hs c (by simp)⟩
  | cons s ss =>
    obtain ⟨hne, hs⟩ := hss s (by simp)
    cases hn : s.name with
    | nil => exact absurd hn hne
    | cons c cs =>
      refine ⟨c, cs ++ s.qual.render ++ c_pipe :: renderPath ss leaf, by simp [renderPath, hn], ?_⟩
      exact hs c (by simp [hn])

theorem qual_tail_sep (q : Qual) (R : Bytes) : ∃ x xs, q.render ++ c_pipe :: R = x :: xs ∧ isSep x = true := by
  cases q with
  | none => exact ⟨c_pipe, R, rfl, by decide⟩
  | plain t => exact ⟨c_eq, t ++ c_pipe :: R, rfl, by decide⟩
  | quoted t => exact ⟨c_eq, quoteTitle t ++ c_pipe :: R, rfl, by decide⟩

theorem pathQual_title (o : Opt) (body R t : Bytes) (len : Nat)
    (hp : parseTitle (body ++ c_pipe :: R) = some (t, body.length)) :
    (pathQual o (c_eq :: body ++ c_pipe :: R) len).1 = instOf o (some t) ∧
    ((pathQual o (c_eq :: body ++ c_pipe :: R) len).1 ≥ 0 →
      (pathQual o (c_eq :: body ++ c_pipe :: R) len).2 = len + (body.length + 1)) := by
  unfold pathQual instOf
  simp only [List.cons_append, List.head?_cons, bne_self_eq_false, Bool.false_eq_true, if_false,
    List.drop_succ_cons, List.drop_zero, hp]
  cases o.flags.multi
  · exact ⟨rfl, fun h => absurd h (by simp)⟩
  · cases o.flags.title
    · exact ⟨rfl, fun _ => by simp only [Bool.not_true, Bool.false_eq_true, if_false]; omega⟩
    · exact ⟨by simp only [Bool.not_true, Bool.false_eq_true, if_false, if_true]; cases gettsecidx o t <;> rfl,
        fun _ => by simp only [Bool.not_true, Bool.false_eq_true, if_false, if_true]; omega⟩

/-- the qualifier parser on a rendered qualifier: the instance `instOf` names, and (when the option
can have instances) exactly the rendered length -/
theorem pathQual_render (o : Opt) (q : Qual) (R : Bytes) (len : Nat) (hq : q.ok) :
    (pathQual o (q.render ++ c_pipe :: R) len).1 = instOf o q.text ∧
    ((pathQual o (q.render ++ c_pipe :: R) len).1 ≥ 0 → (pathQual o (q.render ++ c_pipe :: R) len).2 = len + q.render.length) := by
  cases q with
  | none => simp [pathQual, Qual.render, Qual.text, instOf]
  | plain t => exact pathQual_title o t R t len (C11_plain_title t R hq.1 hq.2.1 hq.2.2).1
  | quoted t => exact pathQual_title o (quoteTitle t) R t len (C11_title_roundtrip t (c_pipe :: R))

theorem secidx_walk : ∀ (steps : List PStep) (fuel : Nat) (c : Cfg) (acc : List (Nat × Nat)) (lo : Option OptRef) (li : Int) (leaf : Bytes),
    plainName leaf → (∀ s ∈ steps, plainName s.name ∧ s.qual.ok) → fuel ≥ steps.length + 1 →
    (secidxLoop false fuel c acc lo li (renderPath steps leaf)).ref = walk c acc steps leaf := by
  intro steps
  induction steps with
  | nil =>
    intro fuel c acc lo li leaf hleaf _ hfuel
    obtain ⟨k, rfl⟩ : ∃ k, fuel = k + 1 := ⟨fuel - 1, by simp at hfuel; omega⟩
    rw [renderPath, walk, secidxLoop_leaf k c acc lo li leaf hleaf]
    cases getoptLeaf c leaf <;> rfl
  | cons s ss ih =>
    intro fuel c acc lo li leaf hleaf hss hfuel
    obtain ⟨k, rfl⟩ : ∃ k, fuel = k + 1 := ⟨fuel - 1, by simp at hfuel; omega⟩
    obtain ⟨hn, hq⟩ := hss s (by simp)
    have hss' : ∀ s' ∈ ss, plainName s'.name ∧ s'.qual.ok := fun s' h => hss s' (by simp [h])
    obtain ⟨r0, rs, hR, hr0⟩ := renderPath_head ss leaf hleaf (fun s' h => (hss' s' h).1)
    rw [renderPath, List.append_assoc, secidxLoop_sep k c acc lo li s.name _ hn (qual_tail_sep s.qual _), walk]
    cases pathOpt c s.name with
    | none => rfl
    | some oo =>
      obtain ⟨oi, o⟩ := oo
      obtain ⟨hq1, hq2⟩ := pathQual_render o s.qual (renderPath ss leaf) s.name.length hq
      simp only [hq1]
      cases hpi : pathInst o (instOf o s.qual.text) with
      | none => rfl
      | some is =>
        obtain ⟨ii, sub⟩ := is
        -- the step consumed name and qualifier; one `|` is left in front of the remaining path
        have hseps : ((c_pipe :: renderPath ss leaf).takeWhile (· == c_pipe)).length = 1 := by
          have : r0 ≠ c_pipe := by intro e; subst e; simp [isSep] at hr0
          rw [hR]; simp [this]
        rw [hq2 (by rw [hq1]; exact (pathInst_spec o _ _ _ hpi).1), ← List.append_assoc,
          List.drop_left' List.length_append]
        simp only [hseps, Nat.reduceBEq, Bool.and_false, Bool.false_eq_true, if_false, List.drop_succ_cons, List.drop_zero]
        exact ih k sub (acc ++ [(oi, ii)]) (some ⟨acc, oi⟩) (instOf o s.qual.text) leaf hleaf hss' (by simp at hfuel; omega)

/-- **C11 (paths are step-by-step navigation).** For every path — any number of steps, each a
section name with no qualifier, a plain qualifier (index or simple title) or a quoted title of
arbitrary bytes, then an option name — the resolver returns exactly what navigating one level at a
time with the single-level accessors returns (the same option of the same section instance, or
nothing). -/
theorem C11_resolve (c : Cfg) (steps : List PStep) (leaf : Bytes)
    (hleaf : plainName leaf) (hsteps : ∀ s ∈ steps, plainName s.name ∧ s.qual.ok)
    (hkv : c.flags.keystrval = false) :     -- in a free-form section a key of exactly that spelling comes first (keyFirst)
    (getoptPath c (renderPath steps leaf)).ref = walk c [] steps leaf := by
  obtain ⟨r0, rs, hR, _⟩ := renderPath_head steps leaf hleaf (fun s h => (hsteps s h).1)
  have hlen : ∀ ss : List PStep, (renderPath ss leaf).length ≥ ss.length := by
    intro ss
    induction ss with
    | nil => simp
    | cons a as ih => simp [renderPath]; omega
  rw [(getoptPath_loop (by rw [hR]; exact List.cons_ne_nil _ _) (keyFirst_none _ false hkv)).1]
  exact secidx_walk steps _ c [] none (-1) leaf hleaf hsteps (Nat.succ_le_succ (hlen steps))

open Confuse.Spec in
/-- a decimal index reads back as the number -/
theorem strtol_decDigits (n : Nat) (hn : n ≤ 9223372036854775807) : strtolC (decDigits n) 0 = ⟨(n : Int), [], false⟩ := by
  obtain ⟨h1, h2, c, cs, h3, h4, h5, h6⟩ := decDigits_spec n
  by_cases h0 : n = 0
  · subst h0; rw [decDigits]; rfl
  · -- no leading zero, so base 0 means base 10 and there is no `0x`
    have hc : c ≠ 48 := h4 (by omega)
    rw [h3] at h1 h2 ⊢
    rw [strtolC_unsigned 0 10 c cs (by have := ((allDigits_cons ..).mp h1).1; omega)
        (hexPrefix_false 0 c cs (fun x t e => hc (by injection e))) (by simp [hc]),
      strtolCore_all false 10 _ _ (List.cons_ne_nil _ _) h1, h2]
    simp only [Bool.false_eq_true, if_false]
    exact if_neg (by omega)

/-- on an untitled multi section a decimal qualifier selects that instance number -/
theorem instOf_index (o : Opt) (n : Nat) (hm : o.flags.multi = true) (ht : o.flags.title = false) (hn : n ≤ 9223372036854775807) :
    instOf o (some (decDigits n)) = (n : Int) := by
  simp [instOf, hm, ht, strtol_decDigits n hn]

/-! ### non-vacuity: a three-level path through a titled and an indexed section -/
private def exD : List Decl :=
  [ .mk { name := [97], ty := .sec } { multi := true, title := true }
      [ .mk { name := [98], ty := .sec } { multi := true }
          [ .mk { name := [120], ty := .int, defInt := 1 } {} [] ] ] ]
-- one instance of `a` titled `it's`, holding two instances of `b`
private def exB : Opt := .mk { name := [98], ty := .sec } { multi := true } [ .mk { name := [120], ty := .int, defInt := 1 } {} [] ]
    [ .sec (mkSection { name := [97] } (.mk { name := [98], ty := .sec } { multi := true } [ .mk { name := [120], ty := .int, defInt := 1 } {} [] ] [] none) none),
      .sec (mkSection { name := [97] } (.mk { name := [98], ty := .sec } { multi := true } [ .mk { name := [120], ty := .int, defInt := 1 } {} [] ] [] none) none) ] none
private def exC : Cfg :=
  .mk { name := rootName }
    [ .mk { name := [97], ty := .sec } { multi := true, title := true } []
        [ .sec (.mk { name := [97], title := some [105, 116, 39, 115] } [exB]) ] none ]
private def exSteps : List PStep := [ ⟨[97], .quoted [105, 116, 39, 115]⟩, ⟨[98], .plain [49]⟩ ]

example : (getoptPath exC (renderPath exSteps [120])).ref = some ⟨[(0, 0), (0, 1)], 0⟩ := by decide +kernel
example : walk exC [] exSteps [120] = some ⟨[(0, 0), (0, 1)], 0⟩ := by decide +kernel
example : renderPath exSteps [120] = [97, 61, 39, 105, 116, 92, 39, 115, 39, 124, 98, 61, 49, 124, 120] := by decide +kernel
end Confuse
