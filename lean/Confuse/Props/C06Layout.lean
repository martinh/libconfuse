import Confuse.Lemmas.Erase
/-!
# C06 / C13 / C15 — what positions and annotations can NOT influence

`erasePM` forgets every file name and line number (of every context at every depth, of the
diagnostics, of the saved include positions) and every annotation.  The token machine commutes with
it (`pstep_nat` of `Lemmas/Erase`: through the store, the path resolver, the callbacks and every parser state).  The
theorems below are the user-visible consequences.
-/
namespace Confuse

/-- **C06 (line layout is only ever reported, never acted on).** Two token sequences with the same
tokens but ANY placement of newlines (different line increments per token), run from machines that
differ at most in positions and annotations, end in machines that differ at most in positions and
annotations: same acceptance, same values at every depth, same callback invocations, same classes
of diagnostics in the same order. -/
theorem C06_layout_independent (orc : Oracle) (ts ts' : List LTok) (m m' : PM)
    (htoks : ts.map (·.1) = ts'.map (·.1)) (hm : erasePM m = erasePM m') :
    erasePM (parseToks orc m ts) = erasePM (parseToks orc m' ts') ∧
    (parseToks orc m ts).status = (parseToks orc m' ts').status ∧
    (parseToks orc m ts).trace = (parseToks orc m' ts').trace ∧
    (parseToks orc m ts).diags.map (·.cls) = (parseToks orc m' ts').diags.map (·.cls) := by
  have h := parseToks_erase_congr orc ts ts' m m' htoks hm
  exact ⟨h, (congrArg PM.status h :), (congrArg PM.trace h :), diags_cls_of_erase (congrArg PM.diags h :)⟩

/-- **C13 (entering an include changes positions only).** When the target resolves and opens, the
machine after `cfg_lexer_include` differs from the machine before in positions, in the new source on
the stack and in the consumed request — nothing else: no value, flag, callback or diagnostic. -/
theorem C13_enter_positions_only (pe : PEnv) (m : PM) (f : Frame) (rest : List Frame) (name xf content : Bytes)
    (hfr : m.frames = f :: rest) (hdepth : ¬ m.srcs.length - 1 ≥ pe.maxInc)
    (hres : resolveFile pe name = some xf) (hopen : openFile pe xf = some content) :
    erasePM (doInclude pe m name) =
      { erasePM m with srcs := eraseSrc { rest := content, savedFile := f.cfg.info.filename, savedLine := f.cfg.info.line } :: (erasePM m).srcs,
                       pendingInclude := none } := by
  rw [doInclude_enter pe m name xf content hfr hdepth hres hopen]
  simp only [erasePM, hfr, List.map_cons, eraseFrame_setPos]

/-- **C13 (the saved and restored positions never matter to values).** Whatever file name and line
an include left in the contexts, in the source stack or in earlier diagnostics, the parse of the
tokens that follow computes the same values, acceptance, callbacks and diagnostic classes. -/
theorem C13_positions_irrelevant (orc : Oracle) (ts : List LTok) (m m' : PM) (hm : erasePM m = erasePM m') :
    erasePM (parseToks orc m ts) = erasePM (parseToks orc m' ts) :=
  parseToks_erase_congr orc ts ts m m' rfl hm

/-- **C15 (comments are transparent with annotation support ON).** Inserting a comment token at any
position of any token sequence changes at most positions and annotations — acceptance, every value
at every depth, the callback invocations and the diagnostic classes stay the same — provided that at
the insertion point the machine is not sitting at an item boundary right after a *deprecated*
option (there the comment token triggers that option's deprecation handling one token early,
which adds a diagnostic). -/
theorem C15_transparent_annotations_on (orc : Oracle) (a b : List LTok) (m : PM) (c : Bytes) (n : Nat)
    (hpoint : ∀ f rest, (parseToks orc m a).status = .running → (parseToks orc m a).frames = f :: rest →
      f.state = .s0 → noPendingDeprecated f) :
    erasePM (parseToks orc m (a ++ (.comment c, n) :: b)) = erasePM (parseToks orc m (a ++ b)) := by
  rw [parseToks_append, parseToks_append, parseToks_cons]
  refine parseToks_erase_congr orc b b _ _ rfl ?_
  generalize parseToks orc m a = ma at hpoint ⊢
  refine pstep_cases (Q := fun x => erasePM x = erasePM ma) orc ma _ n (fun _ => rfl) fun f rest hrun hfr => ?_
  have hE : erasePM ({ ma with frames := f.addLine n :: rest } : PM) = erasePM ma := by
    simp only [erasePM, hfr, List.map_cons, eraseFrame_addLine]
  rw [stepAt_inner _ _ _ _ _ rfl]
  split
  · exact hE
  · rename_i hs
    have hs0 : f.state = .s0 := by simpa [Frame.addLine, Tok.isComment] using hs
    simp only [show (f.addLine n).state = .s0 from hs0, stepFn, step_s0]
    rw [handleDeprecated_id _ _ (noPending_addLine f n (hpoint f rest hrun hfr hs0))]
    split
    · simp [erasePM, hfr, eraseFrame, Frame.addLine]
    · exact hE

/-- non-vacuity: at the start of a parse (no current option) the side condition of
`C15_transparent_annotations_on` holds -/
example (orc : Oracle) (b : List LTok) (c : Bytes) (n : Nat) (cfg : Cfg) :
    erasePM (parseToks orc { frames := [{ cfg := cfg }], srcs := [] } ([] ++ (.comment c, n) :: b)) =
      erasePM (parseToks orc { frames := [{ cfg := cfg }], srcs := [] } ([] ++ b)) :=
  C15_transparent_annotations_on orc [] b _ c n (by
    intro f rest _ hfr _ r o hr _
    simp only [parseToks_nil, List.cons.injEq] at hfr
    obtain ⟨rfl, _⟩ := hfr
    simp at hr)
end Confuse
