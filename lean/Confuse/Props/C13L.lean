import Confuse.Lemmas.LoopSim
/-!
# C13 — including a file equals reading its text in place (the parse loop, byte level)

Two runs of the parse loop are compared: one in which the source stack holds the text `a` of an
included file on top of the includer's remaining text `o` (with any number of sources above —
includes nested inside `a` — and below), and one in which the single source `a ++ o` stands in their
place.  They end in machines that agree on everything but positions and the source stack: same
acceptance, same values at every depth, same callback invocations, same diagnostic classes in the
same order.  Hypotheses on `a`: no `$` (the `${…}` look-ahead is unbounded), it ends in a newline,
and it scans on its own without a scanner error.  The one way the two runs can differ is named in
the conclusion: the nested run is one include level deeper, so it can hit the depth limit where
the flat one does not — then it is rejected with "includes nested too deeply".
-/
namespace Confuse

def Out (F F' : PM) : Prop := Core F F' ∨ DepthHit F

theorem depthHit_stopped (orc : Oracle) (pe : PEnv) (fuel : Nat) (N : PM) (h : DepthHit N) :
    parseLoopFrom orc pe fuel .initial N = N :=
  loop_stopped orc pe fuel N (by rw [h.1]; decide)

theorem out_stopped (orc : Oracle) (pe : PEnv) (fuel : Nat) {M M' : PM} (hc : Core M M') (hrun : M.status ≠ .running) :
    Out (parseLoopFrom orc pe fuel .initial M) (parseLoopFrom orc pe fuel .initial M') := by
  rw [loop_stopped orc pe _ M hrun, loop_stopped orc pe _ M' fun x => hrun (hc.status.trans x)]
  exact Or.inl hc

theorem same_run (orc : Oracle) (pe : PEnv) : ∀ (fuel : Nat) (M M' : PM), SameR pe.env M M' →
    Out (parseLoopFrom orc pe fuel .initial M) (parseLoopFrom orc pe fuel .initial M') := by
  intro fuel
  induction fuel with
  | zero =>
    intro M M' h
    have hc := h.1
    rw [loop_zero, loop_zero, ← hc.status]
    split
    · exact Or.inl (core_outOfFuel hc)
    · exact Or.inl hc
  | succ n ih =>
    intro M M' h
    by_cases hrun : M.status = .running
    · obtain ⟨N, N', e1, e2, hN⟩ := sameStep orc pe h hrun
      rw [loop_step orc pe n hrun e1, loop_step orc pe n (h.1.status ▸ hrun) e2]
      rcases hN with hd | hs
      · rw [depthHit_stopped orc pe n N hd]; exact Or.inr hd
      · exact ih N N' hs
    · exact out_stopped orc pe _ h.1 hrun

theorem joint_run (orc : Oracle) (pe : PEnv) : ∀ (fuel : Nat) (M M' : PM), JointR pe.env M M' →
    (parseLoopFrom orc pe fuel .initial M).status ≠ .outOfFuel →
    Out (parseLoopFrom orc pe fuel .initial M) (parseLoopFrom orc pe fuel .initial M') := by
  intro fuel
  induction fuel with
  | zero =>
    intro M M' h hf
    rw [loop_zero] at hf
    by_cases hrun : M.status = .running
    · simp [hrun] at hf
    · exact out_stopped orc pe _ h.1 hrun
  | succ n ih =>
    intro M M' h hf
    by_cases hrun : M.status = .running
    · obtain ⟨N, e1, hN⟩ := jointStep orc pe h hrun
      rw [loop_step orc pe n hrun e1] at hf ⊢
      rcases hN with hd | ⟨N', e2, hj⟩ | hs
      · rw [depthHit_stopped orc pe n N hd]; exact Or.inr hd
      · rw [loop_step orc pe n (h.1.status ▸ hrun) e2]
        exact ih N N' hj hf
      · -- the flat run has not moved: it has one round more to go, which changes nothing if `n` rounds suffice
        rcases same_run orc pe n N M' hs with hcore | hd
        · rw [loop_mono orc pe n M' (by rw [← hcore.status]; exact hf)]
          exact Or.inl hcore
        · exact Or.inr hd
    · exact out_stopped orc pe _ h.1 hrun

/-- what `Core` says in terms of what an application can observe -/
theorem core_observable {F F' : PM} (h : Core F F') :
    F.status = F'.status ∧ F.trace = F'.trace ∧ F.diags.map (·.cls) = F'.diags.map (·.cls) ∧
    (collapse F.frames).map (fun f => eraseCfg f.cfg) = (collapse F'.frames).map (fun f => eraseCfg f.cfg) :=
  ⟨h.status, (congrArg PM.trace h :), diags_cls_of_erase (congrArg PM.diags h :), by rw [← collapse_erase, ← collapse_erase, h.frames]⟩

/-- **C13 (include = text in place).**  `m0` is a running machine about to open the file whose text
is `a`; `src` is its current source, whose remaining text is what follows the `include(…)` call. -/
theorem C13_include_in_place (orc : Oracle) (pe : PEnv) (fuel : Nat) (m0 : PM) (fname xf a : Bytes) (src : Src) (srcs : List Src)
    (f : Frame) (rest : List Frame) (hfr : m0.frames = f :: rest) (hs : m0.srcs = src :: srcs)
    (hdepth : ¬ (m0.srcs.length - 1 ≥ pe.maxInc)) (hres : resolveFile pe fname = some xf) (hopen : openFile pe xf = some a)
    (hnd : NoDollar a) (hen : EndsNl a) (hscan : ∃ ta, Scan pe.env a (ta ++ [.eof]))
    (hfuel : (parseLoopFrom orc pe fuel .initial (doInclude pe m0 fname)).status ≠ .outOfFuel) :
    Out (parseLoopFrom orc pe fuel .initial (doInclude pe m0 fname))
        (parseLoopFrom orc pe fuel .initial
          (setSrcs { m0 with pendingInclude := none } ({ src with rest := a ++ src.rest } :: srcs))) := by
  refine joint_run orc pe fuel _ _ ?_ hfuel
  rw [doInclude_enter pe m0 fname xf a hfr hdepth hres hopen]
  refine ⟨?_, fun _ => ⟨_, _, rfl⟩, [], a, src.rest, srcs.map (·.rest), ?_, ?_, hnd, hen, hscan⟩
  · exact core_setFrames (Core.refl ({ m0 with pendingInclude := none } : PM))
      ({ f with cfg := f.cfg.setInfo { f.cfg.info with filename := some xf, line := 1 } } :: rest) m0.frames
      (by rw [hfr]; simp only [List.map_cons, eraseFrame_setPos])
      ({ rest := a, savedFile := f.cfg.info.filename, savedLine := f.cfg.info.line } :: m0.srcs)
      ({ src with rest := a ++ src.rest } :: srcs)
  · simp [rests, hs]
  · simp [rests, setSrcs]

/-! ### the hypotheses on the included text are met by an ordinary file -/

private def envN : Env := fun _ => none
private def exA : Bytes := [120, 32, 61, 32, 50, 10]          -- "x = 2\n"

example : NoDollar exA ∧ EndsNl exA :=
  ⟨by intro c hc; simp [exA] at hc; omega, by intro x hx; simp [exA] at hx; omega⟩

example : ∃ ta, Scan envN exA (ta ++ [.eof]) := by
  refine ⟨[.str [120], .eq, .str [50]], ?_⟩
  have h1 : lexInitial envN 0 exA = ⟨.str [120], 0, [32, 61, 32, 50, 10]⟩ := by decide
  have h2 : lexInitial envN 0 [32, 61, 32, 50, 10] = ⟨.eq, 0, [32, 50, 10]⟩ := by decide
  have h3 : lexInitial envN 0 [32, 50, 10] = ⟨.str [50], 0, [10]⟩ := by decide
  have h4 : lexInitial envN 0 [10] = ⟨.eof, 1, []⟩ := by decide
  have s4 : Scan envN [10] [.eof] := Scan.eof _ (by rw [h4])
  have s3 : Scan envN [32, 50, 10] [.str [50], .eof] := by
    have := Scan.tok (env := envN) [32, 50, 10] [.eof] (by rw [h3]; decide) (by rw [h3]; rfl) (by rw [h3]; exact s4)
    rw [h3] at this; exact this
  have s2 : Scan envN [32, 61, 32, 50, 10] [.eq, .str [50], .eof] := by
    have := Scan.tok (env := envN) [32, 61, 32, 50, 10] _ (by rw [h2]; decide) (by rw [h2]; rfl) (by rw [h2]; exact s3)
    rw [h2] at this; exact this
  have := Scan.tok (env := envN) exA _ (by rw [h1]; decide) (by rw [h1]; rfl) (by rw [h1]; exact s2)
  rw [h1] at this; exact this

end Confuse
