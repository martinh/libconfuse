import Confuse.Model.Api
import Confuse.Lemmas.Resolve
/-!
# C11 — path lookups resolve like step-by-step navigation
-/
namespace Confuse

/-- quoting of a title inside a path: `'…'` with `\'` and `\\` -/
def escTitle : Bytes → Bytes
  | [] => []
  | c :: cs => if c = c_sq || c = c_bs then c_bs :: c :: escTitle cs else c :: escTitle cs

def quoteTitle (t : Bytes) : Bytes := c_sq :: (escTitle t ++ [c_sq])

theorem parseQuoted_quote (acc rest : Bytes) (n : Nat) : parseQuoted (c_sq :: rest) acc n = some (acc.reverse, n + 1) := by
  rw [parseQuoted.eq_def]; simp

theorem parseQuoted_escaped (d : Nat) (ds acc : Bytes) (n : Nat) (h : (d = c_sq || d = c_bs) = true) :
    parseQuoted (c_bs :: d :: ds) acc n = parseQuoted ds (d :: acc) (n + 2) := by
  rw [parseQuoted.eq_def]; simp [h]

theorem parseQuoted_plain (c : Nat) (cs acc : Bytes) (n : Nat) (h1 : c ≠ c_sq) (h2 : c ≠ c_bs) :
    parseQuoted (c :: cs) acc n = parseQuoted cs (c :: acc) (n + 1) := by
  rw [parseQuoted.eq_def]; simp [h1, h2]

theorem parseQuoted_esc (t : Bytes) : ∀ (acc rest : Bytes) (n : Nat),
    parseQuoted (escTitle t ++ c_sq :: rest) acc n = some (acc.reverse ++ t, n + (escTitle t).length + 1) := by
  induction t with
  | nil => intro acc rest n; simp [escTitle, parseQuoted_quote]
  | cons c cs ih =>
    intro acc rest n
    by_cases h : (c = c_sq || c = c_bs) = true
    · simp only [escTitle, h, if_true, List.cons_append]
      rw [parseQuoted_escaped c _ acc n h, ih]
      simp [Nat.add_comm, Nat.add_left_comm]
    · have h' : c ≠ c_sq ∧ c ≠ c_bs := by simpa using h
      simp only [escTitle, h, Bool.false_eq_true, if_false, List.cons_append]
      rw [parseQuoted_plain c _ acc n h'.1 h'.2, ih]
      simp [Nat.add_comm, Nat.add_left_comm]

/-- **C11 (title quoting).** A quoted title with `\'` and `\\` escapes reads back as the title, for
every byte string, and tells the resolver exactly how many bytes it occupied. -/
theorem C11_title_roundtrip (t rest : Bytes) :
    parseTitle (quoteTitle t ++ rest) = some (t, (quoteTitle t).length) := by
  simp only [quoteTitle, List.cons_append, parseTitle, if_true, List.append_assoc, List.nil_append]
  rw [parseQuoted_esc t [] rest 1]
  simp [Nat.add_comm, Nat.add_left_comm]

/-- an unquoted title / index runs up to the next `|` -/
theorem C11_plain_title (t rest : Bytes) (hne : t ≠ []) (hq : t.head? ≠ some c_sq) (hp : ∀ c ∈ t, c ≠ c_pipe) :
    parseTitle (t ++ c_pipe :: rest) = some (t, t.length) ∧ parseTitle t = some (t, t.length) := by
  have ha : t.all (· != c_pipe) = true := List.all_eq_true.2 fun c hc => bne_iff_ne.2 (hp c hc)
  have tw := (span_append rest ha (bne_self_eq_false c_pipe)).1
  have tw2 := takeWhile_all ha
  cases t with
  | nil => exact absurd rfl hne
  | cons c cs =>
    have hc : c ≠ c_sq := by simpa using hq
    rw [List.cons_append] at tw
    constructor
    · simp [parseTitle, hc, tw]
    · simp [parseTitle, hc, tw2]

/-- **C11 (one level).** A path that is just a name resolves exactly like the single-level lookup. -/
theorem C11_single_level (c : Cfg) (name : Bytes) (hn : plainName name) :
    (getoptPath c name).ref = (getoptLeaf c name).map (fun i => ⟨[], i⟩) := by
  cases hk : keyFirst c name false with
  | some i => rw [getoptPath_key hn.1 hk, keyFirst_some hk]; rfl
  | none =>
    rw [(getoptPath_loop hn.1 hk).1, secidxLoop_leaf _ c [] none (-1) name hn]
    cases getoptLeaf c name <;> rfl

/-- **C11 (empty path).** -/
theorem C11_empty_path (c : Cfg) (w : Bool) : (getoptSecidx c [] w).ref = none := by
  simp [getoptSecidx]

/-- **C11 (getters are pure; failing by-path calls change nothing).** -/
theorem C11_unresolved_changes_nothing (orc : Oracle) (k : Nat) (c : Cfg) (path : Bytes) (ty : Ty) (v : Val) (i : Nat) (b : Bool)
    (h : (getoptPath c path).ref = none) (h2 : (getoptSecidx c path true).ref = none) :
    (apiSetn orc k c path ty v i b).cfg = c ∧ (apiRmsec c path).cfg = c ∧ (apiRmnsec c path i).cfg = c ∧
    (apiSetmulti orc k c path []).cfg = c ∧ (apiList c path [] true).cfg = c := by
  refine ⟨?_, ?_, ?_, ?_, ?_⟩
  · unfold apiSetn; simp [h]
  · unfold apiRmsec; simp [h2]
  · unfold apiRmnsec; simp [h]
  · unfold apiSetmulti; simp [h]
  · unfold apiList; simp [h]

end Confuse
