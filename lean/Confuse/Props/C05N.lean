import Confuse.Props.C05
import Confuse.Props.C03
/-!
# C05 — option names survive the print / scan round trip

`cfg_print_name` writes a name as it is when it is a plain word and as a quoted string otherwise
(the keys of a free-form section can be any string).  Either way the scanner reads back exactly
the name, as one string token, in front of the blank or the equal sign that `cfg_print` puts after it.
-/
namespace Confuse

theorem hasSlashSlash_head (c : Nat) (cs : Bytes) (h : hasSlashSlash (c :: cs) = false) (hc : c = c_slash) :
    cs.head? ≠ some c_slash := by
  cases cs with
  | nil => simp
  | cons e es =>
    simp only [hasSlashSlash, Bool.or_eq_false_iff, Bool.and_eq_false_iff] at h
    subst hc
    intro he
    simp only [List.head?_cons, Option.some.injEq] at he
    subst he
    simp at h

/-- a plain name is scanned back as itself -/
theorem C05_name_plain (env : Env) (n rest : Bytes) (d : Nat) (nl : Nat) (hp : isPlainName n = true)
    (h0 : ∀ c ∈ n, c ≠ 0) (hd : d = c_sp ∨ d = c_eq) :
    lexInitial env nl (printName n ++ d :: rest) = ⟨.str n, nl, d :: rest⟩ := by
  simp only [printName, hp, if_true]
  simp only [isPlainName, Bool.and_eq_true, Bool.not_eq_true'] at hp
  obtain ⟨⟨hne, hw⟩, hss⟩ := hp
  cases n with
  | nil => simp at hne
  | cons c cs =>
    simp only [List.all_cons, Bool.and_eq_true] at hw
    have hdw : isWordByte d = false := by rcases hd with rfl | rfl <;> decide
    refine unquoted_noNul env c cs d rest nl hw.1 hw.2 hdw
      (fun hc => ⟨hasSlashSlash_head c cs hss hc, fun _ => by rcases hd with rfl | rfl <;> decide⟩) (fun _ => ?_) h0
    intro ⟨hh, _⟩
    cases cs with
    | nil => simp at hh; rcases hd with rfl | rfl <;> simp at hh
    | cons e es =>
      simp only [List.cons_append, List.head?_cons, Option.some.injEq] at hh
      subst hh
      cases hw.2

/-- any other name is written quoted and scanned back as itself (C05_str) -/
theorem C05_name_quoted (env : Env) (n rest : Bytes) (nl : Nat) (hp : isPlainName n = false) (h0 : ∀ c ∈ n, c ≠ 0) :
    lexInitial env nl (printName n ++ rest) = ⟨.str n, nl + countNl n, rest⟩ := by
  simp only [printName, hp, Bool.false_eq_true, if_false]
  exact C05_str env n rest nl h0

/-- **C05 (option names).** Whatever the name, `cfg_print` writes it so that the scanner returns it
as one string token, and what follows it in the output is still there to be read. -/
theorem C05_name (env : Env) (n rest : Bytes) (d : Nat) (nl : Nat) (h0 : ∀ c ∈ n, c ≠ 0) (hd : d = c_sp ∨ d = c_eq) :
    ∃ nl', lexInitial env nl (printName n ++ d :: rest) = ⟨.str n, nl', d :: rest⟩ := by
  by_cases hp : isPlainName n = true
  · exact ⟨nl, C05_name_plain env n rest d nl hp h0 hd⟩
  · exact ⟨nl + countNl n, C05_name_quoted env n (d :: rest) nl (by simpa using hp) h0⟩

-- names that come back as something else when written bare (fix F33)
example : printName [97, 32, 98] = [34, 97, 32, 98, 34] := by decide          -- `a b`
example : printName [120, 61, 121] = [34, 120, 61, 121, 34] := by decide       -- `x=y`
example : printName [] = [34, 34] := by decide                                 -- the empty key
example : printName [112, 47, 47, 113] = [34, 112, 47, 47, 113, 34] := by decide  -- `p//q`
example : printName [107, 124, 49] = [107, 124, 49] := by decide               -- `k|1` stays a word

end Confuse
