import Confuse.Model.Print
import Confuse.Lemmas.Reads
import Confuse.Props.C04
/-!
# C05 — printed configuration parses back to the same configuration (leaf round trips)
-/
namespace Confuse
open Confuse.Spec

theorem escBody_head_ne_lbr (cs : Bytes) (rest : Bytes) (h : cs.head? ≠ some c_lbr) :
    (escBody cs ++ c_dq :: rest).head? ≠ some c_lbr := by
  cases cs with
  | nil => simp [escBody]
  | cons d ds =>
    have hd : d ≠ c_lbr := by simpa using h
    simp only [escBody]
    by_cases h1 : d = c_dq
    · simp [h1]
    · by_cases h2 : d = c_bs
      · simp [h2]
      · by_cases h3 : d = c_dollar
        · subst h3
          cases ds with
          | nil => simp
          | cons e es => by_cases he : e = c_lbr <;> simp [he]
        · simp [h1, h2, h3, hd]

/-- the scanner reads the escaped body of a printed string back, byte for byte: `escBody` writes every byte as one
item of the literal grammar (`\"`, `\\`, `\$` before a brace, a bare `$` otherwise, the byte itself) -/
theorem dqRun_escBody (env : Env) (s : Bytes) : ∀ (acc : Bytes) (nl : Nat) (rest : Bytes),
    dqRun env ⟨.plain, acc, nl⟩ (escBody s ++ c_dq :: rest) = ⟨.str (cstr (acc.reverse ++ s)), nl + countNl s, rest⟩ := by
  induction s with
  | nil => intro acc nl rest; simp [escBody, dqRun_close]
  | cons c cs ih =>
    intro acc nl rest
    have item : ∀ i : DqItem, i.wf = true → i.okNext (escBody cs ++ c_dq :: rest) = true →
        i.value env = [c] → i.newlines = (if c = c_nl then 1 else 0) →
        dqRun env ⟨.plain, acc, nl⟩ (i.render ++ (escBody cs ++ c_dq :: rest)) =
          ⟨.str (cstr (acc.reverse ++ c :: cs)), nl + ((if c = c_nl then 1 else 0) + countNl cs), rest⟩ := by
      intro i hwf hnext hv hn
      rw [dq_item env i acc nl _ hwf hnext, ih, hv, hn]
      simp [Nat.add_assoc]
    rw [countNl_cons]
    simp only [escBody]
    by_cases h1 : c = c_dq
    · subst h1; exact item (.other c_dq) rfl rfl rfl rfl
    by_cases h2 : c = c_bs
    · subst h2; exact item (.other c_bs) rfl rfl rfl rfl
    simp only [h1, h2, if_false]
    by_cases h3 : c = c_dollar
    · subst h3
      simp only [if_true]
      cases cs with
      | nil => exact item .dollar rfl rfl rfl rfl
      | cons d ds =>
        by_cases hd : d = c_lbr
        · subst hd; exact item (.other c_dollar) rfl rfl rfl rfl
        · simp only [hd, if_false]
          have hok : DqItem.okNext .dollar (escBody (d :: ds) ++ c_dq :: rest) = true := by
            have hh := escBody_head_ne_lbr (d :: ds) rest (by simpa using hd)
            generalize escBody (d :: ds) ++ c_dq :: rest = X at hh
            cases X with
            | nil => rfl
            | cons e es => have : e ≠ c_lbr := by simpa using hh
                           simp [DqItem.okNext, this]
          exact item .dollar rfl hok rfl rfl
    by_cases h4 : c = c_nl
    · subst h4; exact item .nl rfl rfl rfl rfl
    · simp only [h3, if_false]
      exact item (.plain c) (by simp [DqItem.wf, h1, h2, h3, h4]) rfl rfl (by simp [DqItem.newlines, h4])

/-- **C05 (strings and titles).** What `cfg_print` writes for a string value or a section title —
any bytes 1..255, quotes, backslashes, `$`, `{`, newlines, comment markers included — is read
back by the scanner as exactly that string, in any environment, and the line counter advances by the
newlines the string contains. -/
theorem C05_str (env : Env) (s rest : Bytes) (nl : Nat) (h : ∀ c ∈ s, c ≠ 0) :
    lexInitial env nl (printQuoted (some s) ++ rest) = ⟨.str s, nl + countNl s, rest⟩ := by
  simp only [printQuoted, Option.getD_some, List.cons_append, List.append_assoc]
  show dqRun env ⟨.plain, [], nl⟩ _ = _
  rw [dqRun_escBody]
  simp [cstr_noNul s h]

/-- **C05 (booleans).** -/
theorem C05_bool (b : Bool) : convBool (if b then bTrue else bFalse) = some b := by
  cases b <;> decide

/-- a NULL string prints as `""` (and the option is commented out, see C19) -/
theorem C05_null_prints_empty : printQuoted none = [c_dq, c_dq] := by decide

theorem digitsValue_snoc (b : Nat) (ds : Bytes) (d : Nat) : digitsValue b (ds ++ [d]) = digitsValue b ds * b + digitVal d := by
  simp [digitsValue, List.foldl_append]

theorem digitVal_dec (k : Nat) (h : k < 10) : digitVal (48 + k) = k := by
  unfold digitVal
  have : isDec (48 + k) = true := by simp [isDec]; omega
  simp [this]

/-- decimal digits: all digits, right value, no leading zero -/
theorem decDigits_spec (n : Nat) :
    allDigits 10 (decDigits n) = true ∧ digitsValue 10 (decDigits n) = n ∧
    (∃ c cs, decDigits n = c :: cs ∧ (n ≥ 1 → c ≠ 48) ∧ 48 ≤ c ∧ c ≤ 57) := by
  induction n using Nat.strongRecOn with
  | _ n ih =>
    rw [decDigits]
    by_cases h : n < 10
    · simp only [h, dite_true]
      refine ⟨?_, ?_, 48 + n, [], rfl, ?_, by omega, by omega⟩
      · simp [allDigits, digitVal_dec n h, h]
      · simp [digitsValue, digitVal_dec n h]
      · intro h1; omega
    · simp only [h, dite_false]
      have hlt : n / 10 < n := by omega
      obtain ⟨h1, h2, c, cs, h3, h4, h5, h6⟩ := ih (n / 10) hlt
      have hmod : n % 10 < 10 := Nat.mod_lt _ (by omega)
      refine ⟨?_, ?_, c, cs ++ [48 + n % 10], by rw [h3]; rfl, ?_, h5, h6⟩
      · simp only [allDigits, List.all_append, List.all_cons, List.all_nil, Bool.and_true, Bool.and_eq_true, decide_eq_true_eq] at h1 ⊢
        exact ⟨h1, by rw [digitVal_dec _ hmod]; exact hmod⟩
      · rw [digitsValue_snoc, h2, digitVal_dec _ hmod]; omega
      · intro _; exact h4 (by omega)

theorem intNumeral_printInt (n : Int) : intNumeral (printInt n) = some n := by
  obtain ⟨h1, h2, c, cs, h3, h4, h5, h6⟩ := decDigits_spec n.natAbs
  have hne : (decDigits n.natAbs).isEmpty = false := by rw [h3]; rfl
  unfold printInt
  by_cases hneg : n < 0
  · rw [if_pos hneg]
    show (if (!(decDigits n.natAbs).isEmpty && allDigits 10 (decDigits n.natAbs)) = true then _ else _) = _
    rw [if_pos (by simp [hne, h1]), h2]
    exact congrArg some (by omega)
  · rw [if_neg hneg]
    by_cases h0 : n.natAbs = 0
    · rw [h0, show n = 0 by omega, decDigits]; rfl
    · rw [h3, intNumeral_dec c cs (h4 (by omega)) (by omega) (by omega), ← h3,
        if_pos (by simp [hne, h1]), h2]
      exact congrArg some (by omega)

/-- **C05 (integers).** Every `long` printed with `%ld` converts back to itself. -/
theorem C05_int (n : Int) (hlo : longMin ≤ n) (hhi : n ≤ longMax) : convInt (printInt n) = .ok n := by
  rw [C04_int, intExpected, intNumeral_printInt]
  exact if_pos ⟨hlo, hhi⟩

end Confuse
