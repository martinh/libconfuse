import Confuse.Lemmas.SkipInv
import Confuse.Lemmas.Erase
import Confuse.Props.C12
/-!
# C12 — an undeclared item inserted between two items changes nothing

The simulation behind `C12_insert`: after an undeclared item has been skipped the machine differs
from the machine that never saw it in positions, in the pending annotation and in the stale "current
option" local of the frame.  `Sim` relates two machines that are equal up to positions/annotations,
or additionally differ in that local while sitting at an item boundary, or have both stopped with
the same observable outcome.  Every step preserves it.
-/
namespace Confuse

/-- what the caller of the parser can observe of a machine: status, callback invocations, the
classes of the diagnostics, and the tree (positions and annotations erased) -/
def obs (m : PM) : Status × List CbCall × List DiagCls × Option Cfg :=
  (m.status, m.trace, m.diags.map (·.cls), (collapse m.frames).map (fun f => eraseCfg f.cfg))

def dropOpt (f : Frame) : Frame := { f with opt := none }

/-- logs and sources equal up to positions -/
def LogsEq (m m' : PM) : Prop := erasePM { m with frames := [] } = erasePM { m' with frames := [] }

/-- both at an item boundary, equal up to positions, annotations and the stale current option -/
def Stale (m m' : PM) : Prop :=
  m.status = .running ∧ m'.status = .running ∧
  ∃ f rest f' rest', m.frames = f :: rest ∧ m'.frames = f' :: rest' ∧ f.state = .s0 ∧
    noPendingDeprecated f ∧ noPendingDeprecated f' ∧ eraseFrame (dropOpt f) = eraseFrame (dropOpt f') ∧
    rest.map eraseFrame = rest'.map eraseFrame ∧ LogsEq m m'

def StoppedEq (m m' : PM) : Prop := m.status ≠ .running ∧ m'.status ≠ .running ∧ obs m = obs m'

def Sim (m m' : PM) : Prop := erasePM m = erasePM m' ∨ Stale m m' ∨ StoppedEq m m'

/-- `writeBack` and the unwinding look at a child's tree and position in the parent only -/
theorem writeBack_dropOpt (p c : Frame) : writeBack p (dropOpt c) = writeBack p c := rfl

theorem collapseInto_dropOpt_cfg (c : Frame) (ps : List Frame) :
    (collapseInto (dropOpt c) ps).cfg = (collapseInto c ps).cfg := by
  cases ps with
  | nil => rfl
  | cons p ps => simp only [collapseInto, writeBack_dropOpt]


theorem eraseFrame_dropOpt (f : Frame) : eraseFrame (dropOpt f) = dropOpt (eraseFrame f) := rfl

theorem collapsed_cfg_eq (f f' : Frame) (rest rest' : List Frame)
    (hf : eraseFrame (dropOpt f) = eraseFrame (dropOpt f')) (hr : rest.map eraseFrame = rest'.map eraseFrame) :
    eraseCfg (collapseInto f rest).cfg = eraseCfg (collapseInto f' rest').cfg := by
  have key : ∀ (g : Frame) (rs : List Frame),
      eraseCfg (collapseInto g rs).cfg = (collapseInto (eraseFrame (dropOpt g)) (rs.map eraseFrame)).cfg := fun g rs => by
    rw [eraseFrame_dropOpt, collapseInto_dropOpt_cfg, ← collapseInto_erase]; rfl
  rw [key, key, hf, hr]

theorem obs_of_logs {m m' : PM} (hl : LogsEq m m')
    (hc : (collapse m.frames).map (fun f => eraseCfg f.cfg) = (collapse m'.frames).map (fun f => eraseCfg f.cfg)) : obs m = obs m' := by
  have l1 : m.status = m'.status := (congrArg PM.status hl :)
  have l2 : m.trace = m'.trace := (congrArg PM.trace hl :)
  have l3 : m.diags.map eraseDiag = m'.diags.map eraseDiag := (congrArg PM.diags hl :)
  simp only [obs, l1, l2, diags_cls_of_erase l3, hc]

theorem obs_of_erase {m m' : PM} (h : erasePM m = erasePM m') : obs m = obs m' := by
  refine obs_of_logs (congrArg (fun x : PM => { x with frames := [] }) h :) ?_
  have h4 := congrArg (fun x => (collapse x.frames).map (fun f => f.cfg)) h
  simpa only [erasePM_erase_frames, collapse_erase] using h4

theorem stale_obs {m m' : PM} (h : Stale m m') : obs m = obs m' := by
  obtain ⟨-, -, f, rest, f', rest', hfr, hfr', -, -, -, hf, hrest, hl⟩ := h
  refine obs_of_logs hl ?_
  rw [hfr, hfr']
  exact congrArg some (collapsed_cfg_eq f f' rest rest' hf hrest)

theorem stoppedEq_reject (M M' : PM) (f f' : Frame) (rest rest' : List Frame) (hl : LogsEq M M')
    (hf : eraseFrame (dropOpt f) = eraseFrame (dropOpt f')) (hr : rest.map eraseFrame = rest'.map eraseFrame) :
    StoppedEq (M.reject f rest) (M'.reject f' rest') :=
  ⟨by simp, by simp, obs_of_logs (congrArg (fun x : PM => { x with status := .rejected }) hl :)
    (congrArg some (collapsed_cfg_eq f f' rest rest' hf hr))⟩

theorem logsEq_addDiags (M M' : PM) (f f' : Frame) (cs : List DiagCls) (hl : LogsEq M M') :
    LogsEq (M.addDiags f cs) (M'.addDiags f' cs) := by
  show erasePM (PM.addDiags { M with frames := [] } f cs) = erasePM (PM.addDiags { M' with frames := [] } f' cs)
  rw [addDiags_erase, addDiags_erase, show erasePM _ = _ from hl, PM.addDiags, PM.addDiags, funext (eraseFrame_diag_any f f')]

theorem stoppedEq_rejectWith (M M' : PM) (f f' : Frame) (rest rest' : List Frame) (c : DiagCls) (hl : LogsEq M M')
    (hf : eraseFrame (dropOpt f) = eraseFrame (dropOpt f')) (hr : rest.map eraseFrame = rest'.map eraseFrame) :
    StoppedEq (M.rejectWith f rest c) (M'.rejectWith f' rest' c) := by
  unfold PM.rejectWith
  exact stoppedEq_reject _ _ f f' rest rest' (logsEq_addDiags M M' f f' [c] hl) hf hr


theorem erase_of_logs (X X' : PM) (fs fs' : List Frame) (hl : LogsEq X X') (hfs : fs.map eraseFrame = fs'.map eraseFrame) :
    erasePM { X with frames := fs } = erasePM { X' with frames := fs' } :=
  ((congrArg (fun x : PM => ({ x with frames := fs.map eraseFrame } : PM)) hl).trans
    (congrArg (fun l => ({ erasePM { X' with frames := [] } with frames := l } : PM)) hfs) :)

theorem logsEq_setFrames (X X' : PM) (fs fs' : List Frame) (hl : LogsEq X X') : LogsEq { X with frames := fs } { X' with frames := fs' } := hl

theorem stale_addLine {f f' : Frame} (n n' : Nat) (h : eraseFrame (dropOpt f) = eraseFrame (dropOpt f')) :
    eraseFrame (dropOpt (f.addLine n)) = eraseFrame (dropOpt (f'.addLine n')) := by
  show dropOpt (eraseFrame (f.addLine n)) = dropOpt (eraseFrame (f'.addLine n'))
  rw [eraseFrame_addLine, eraseFrame_addLine]
  exact h

theorem stale_set (f f' : Frame) (h : eraseFrame (dropOpt f) = eraseFrame (dropOpt f')) {c c' : Cfg} (hc : eraseCfg c = eraseCfg c')
    (o : Option OptRef) (st : PState) :
    eraseFrame { f with cfg := c, opt := o, state := st } = eraseFrame { f' with cfg := c', opt := o, state := st } :=
  ((congrArg (fun g : Frame => ({ g with cfg := eraseCfg c, opt := o, state := st } : Frame)) h).trans
    (congrArg (fun x => ({ eraseFrame f' with cfg := x, opt := o, state := st } : Frame)) hc) :)


theorem vetoed_setFrames (orc : Oracle) (m : PM) (g : Frame) (fs : List Frame) :
    ({ vetoed orc m g with frames := fs } : PM) = vetoed orc { m with frames := fs } g := by
  unfold vetoed
  cases g.opt with
  | none => rfl
  | some r => simp only []; cases g.cfg.getOpt r <;> rfl

/-- the validation tail does not look at the frame list of its machine -/
theorem validThen_frames (orc : Oracle) (m : PM) (g h : Frame) (rs : List Frame) :
    (match runValid orc m g with
      | none => (vetoed orc m g).reject g rs
      | some m1 => { m1 with frames := h :: rs }) =
    (match runValid orc { m with frames := [] } g with
      | none => (vetoed orc { m with frames := [] } g).reject g rs
      | some m1 => { m1 with frames := h :: rs }) := by
  have hk : ({ m with frames := [] } : PM).k = m.k := rfl
  simp only [runValid_spec, hk]
  cases validVerdict orc m.k g with
  | none => simp only [Option.map_none, ← vetoed_setFrames]; rfl
  | some cs => rfl

theorem step_s0_stale (orc : Oracle) (M M' : PM) (F F' : Frame) (rest rest' : List Frame) (tok : Tok)
    (hrun : M.status = .running) (hrun' : M'.status = .running)
    (hl : LogsEq M M') (hf : eraseFrame (dropOpt F) = eraseFrame (dropOpt F')) (hr : rest.map eraseFrame = rest'.map eraseFrame)
    (hnp : noPendingDeprecated F) (hnp' : noPendingDeprecated F') (hs0 : F.state = .s0) :
    Sim (step_s0 orc M F rest tok) (step_s0 orc M' F' rest' tok) := by
  have a1 : eraseCfg F.cfg = eraseCfg F'.cfg := (congrArg Frame.cfg hf :)
  have a2 : F.level = F'.level := (congrArg Frame.level hf :)
  have hfl : F.cfg.flags = F'.cfg.flags := by simpa using congrArg Cfg.flags a1
  unfold step_s0
  -- state 0 reads the current option only in `handleDeprecated`, the identity here; a name token overwrites it and `}`
  -- drops the frame, so after either the machines are equal up to erasure again
  rw [handleDeprecated_id _ _ hnp, handleDeprecated_id _ _ hnp']
  cases tok with
  | rbrace =>
    cases rest with
    | nil =>
      obtain rfl : rest' = [] := List.map_eq_nil_iff.1 hr.symm
      exact Or.inr (Or.inr (stoppedEq_rejectWith M M' F F' [] [] _ hl hf rfl))
    | cons p rs =>
      obtain ⟨p', rs', rfl, hp, hrs⟩ := List.map_eq_cons_iff.1 hr.symm
      simp only [a2]
      split
      · exact Or.inr (Or.inr (stoppedEq_rejectWith M M' F F' _ _ _ hl hf hr))
      · left
        have e1 : eraseFrame (writeBack p F) = eraseFrame (writeBack p' F') := by
          rw [← writeBack_dropOpt p F, ← writeBack_dropOpt p' F', writeBack_erase, writeBack_erase, hp, hf]
        refine (congrArg erasePM (validThen_frames orc M _ _ rs)).trans
          ((validThen_erase orc _ _ _ _ _ _ rs rs' hl ?_ ?_ hrs.symm).trans (congrArg erasePM (validThen_frames orc M' _ _ rs')).symm)
        all_goals rw [eraseFrame_eq_iff] at e1 ⊢
        · simpa using e1
        · simp only [eraseCfg_afterSection]; exact ⟨e1.1, e1.2.1, trivial, e1.2.2.2⟩
  | comment v =>
    simp only [hfl]
    -- the frames keep their stale option; the pending annotation is erased anyway
    split <;> exact Or.inr (Or.inl ⟨hrun, hrun', _, rest, _, rest', rfl, rfl, hs0, hnp, hnp', hf, hr, hl⟩)
  | str v =>
    simp only []
    rw [getoptPath_of_erase a1 v]
    have hlog : LogsEq (M.addDiags F (getoptPath F'.cfg v).diags) (M'.addDiags F' (getoptPath F'.cfg v).diags) :=
      logsEq_addDiags M M' F F' _ hl
    generalize getoptPath F'.cfg v = gp at hlog ⊢
    generalize M.addDiags F gp.diags = M1 at hlog ⊢
    generalize M'.addDiags F' gp.diags = M1' at hlog ⊢
    cases gp.ref with
    | none =>
      simp only [hfl]
      split
      · left
        exact erase_of_logs _ _ _ _ hlog (by simp only [List.map_cons, hr, stale_set F F' hf a1 none .s10])
      · split
        · left
          have ho : F.cfg.opts.map eraseOpt = F'.cfg.opts.map eraseOpt := by simpa using congrArg Cfg.opts a1
          have hlen : F.cfg.opts.length = F'.cfg.opts.length := by simpa using congrArg List.length ho
          refine erase_of_logs _ _ _ _ hlog ?_
          rw [List.map_cons, List.map_cons, hr, hlen]
          refine congrArg (· :: _) (stale_set F F' hf ?_ _ _)
          rw [setOpts_erase, setOpts_erase, List.map_append, List.map_append, a1, ho]
        · split
          · exact Or.inr (Or.inr (stoppedEq_rejectWith M1 M1' _ _ rest rest' _ hlog hf hr))
          · exact Or.inr (Or.inr (stoppedEq_reject M1 M1' _ _ rest rest' hlog hf hr))
    | some ref =>
      simp only []
      have hg := eraseCfg_eq_getOpt a1 ref
      cases h1 : F.cfg.getOpt ref with
      | none =>
        rw [h1] at hg
        rw [Option.map_eq_none_iff.1 hg.symm]
        exact Or.inr (Or.inr (stoppedEq_reject M1 M1' F F' rest rest' hlog hf hr))
      | some o =>
        rw [h1] at hg
        obtain ⟨o', h2, hoo⟩ := Option.map_eq_some_iff.1 hg.symm
        have hty : o'.ty = o.ty := by simpa using congrArg Opt.ty hoo
        have htt : o'.flags.title = o.flags.title := by simpa using congrArg (fun x => x.flags.title) hoo
        simp only [h2, hty, htt]
        left
        exact erase_of_logs _ _ _ _ hlog (by simp only [List.map_cons, hr, stale_set F F' hf a1 (some ref) _])
  | _ => exact Or.inr (Or.inr (stoppedEq_rejectWith M M' F F' rest rest' _ hl hf hr))


theorem sim_step (orc : Oracle) (m m' : PM) (t : Tok) (n n' : Nat) (h : Sim m m') :
    Sim (pstep orc m t n) (pstep orc m' t n') := by
  rcases h with h | h | h
  · exact Or.inl (pstep_erase_congr orc m m' t n n' h)
  · obtain ⟨hrun, hrun', f, rest, f', rest', hfr, hfr', hs0, hnp, hnp', hf, hr, hl⟩ := h
    have hs0' : f'.state = .s0 := (congrArg Frame.state hf :).symm.trans hs0
    have hF := stale_addLine n n' hf
    have hnpF := noPending_addLine f n hnp
    have hnpF' := noPending_addLine f' n' hnp'
    have hlM : LogsEq ({ m with frames := f.addLine n :: rest } : PM) ({ m' with frames := f'.addLine n' :: rest' } : PM) := hl
    cases t with
    | err e =>
      rw [pstep_err orc m f rest e n hrun hfr, pstep_err orc m' f' rest' e n' hrun' hfr']
      exact Or.inr (Or.inr (stoppedEq_rejectWith _ _ _ _ rest rest' _ hlM hF hr))
    | eof =>
      rw [pstep_eof orc m f rest n hrun hfr, pstep_eof orc m' f' rest' n' hrun' hfr']
      have hlev : f.level = f'.level := (congrArg Frame.level hf :)
      simp only [hs0, hs0', hlev]
      split
      · exact Or.inr (Or.inr (stoppedEq_rejectWith _ _ _ _ rest rest' _ hlM hF hr))
      · rw [handleDeprecated_id _ _ hnpF, handleDeprecated_id _ _ hnpF']
        exact Or.inr (Or.inr ⟨by simp, by simp, obs_of_logs (congrArg (fun x : PM => { x with status := .accepted }) hlM :)
          (congrArg some (collapsed_cfg_eq (f.addLine n) (f'.addLine n') [] [] hF rfl))⟩)
    | _ =>
      rw [pstep_running orc m f rest _ n hrun hfr rfl (Or.inr hs0), pstep_running orc m' f' rest' _ n' hrun' hfr' rfl (Or.inr hs0')]
      simp only [hs0, hs0']
      exact step_s0_stale orc _ _ _ _ rest rest' _ hrun hrun' hlM hF hr hnpF hnpF' hs0
  · obtain ⟨h1, h2, h3⟩ := h
    rw [pstep_stopped orc m t n h1, pstep_stopped orc m' t n' h2]
    exact Or.inr (Or.inr ⟨h1, h2, h3⟩)

theorem sim_obs {m m' : PM} (h : Sim m m') : obs m = obs m' := by
  rcases h with h | h | h
  · exact obs_of_erase h
  · exact stale_obs h
  · exact h.2.2

/-- **C12 (insertion).** Let an undeclared item `unk` be skipped at an item boundary, i.e. its tokens
bring the machine back to the same frame with the same tree (any of `C12_skip_*`).  Then whatever
follows — any token sequence `post`, well-formed or not — is parsed to the same observable outcome
as without the item: same acceptance, same values at every depth, same callback invocations, same
diagnostic classes in the same order.  (Positions in later diagnostics shift by the item's lines,
a pending annotation is dropped, and the parser's stale "current option" local differs: none of the
three can reach a value.) -/
theorem C12_insert (orc : Oracle) (m : PM) (f g : Frame) (rest : List Frame) (unk post : List LTok)
    (hrun : m.status = .running) (hfr : m.frames = f :: rest) (hs0 : f.state = .s0) (hnp : noPendingDeprecated f)
    (hskip : parseToks orc m unk = { m with frames := g :: rest })
    (hg : eraseFrame (dropOpt g) = eraseFrame (dropOpt f)) (hgo : g.opt = none) :
    obs (parseToks orc m (unk ++ post)) = obs (parseToks orc m post) := by
  rw [parseToks_append, hskip]
  apply sim_obs
  refine parseToks_rel orc (sim_step orc) post post _ _ rfl (Or.inr (Or.inl ?_))
  have hgs : g.state = .s0 := (congrArg Frame.state hg :).trans hs0
  refine ⟨hrun, hrun, g, rest, f, rest, rfl, hfr, hgs, ?_, hnp, hg, rfl, ?_⟩
  · intro r o hr _; rw [hgo] at hr; simp at hr
  · rfl


/-- a skipped item leaves its frame as it was up to line, annotation and current option; the closing token resets the skip
locals `ignore` / `depth`, which were clear at the boundary -/
theorem skipped_rel (f : Frame) (n : Nat) (hs0 : f.state = .s0) {ig : Ignore} {d : Nat} (hi : f.ignore = ig) (hd : f.depth = d) :
    eraseFrame (dropOpt { f.skipped n with ignore := ig, depth := d }) = eraseFrame (dropOpt f) := by
  rw [eraseFrame_eq_iff]
  simp [Frame.skipped, Frame.addLine, dropOpt, hs0, hi, hd]

/-- `unknown = value` / `unknown += value` inserted before any `post` -/
theorem C12_insert_value (orc : Oracle) (m : PM) (f : Frame) (rest : List Frame) (name v : Bytes) (asg : Tok) (n1 n2 n3 : Nat)
    (post : List LTok) (hrun : m.status = .running) (hfr : m.frames = f :: rest) (hu : UnknownHere f name)
    (hasg : asg = .eq ∨ asg = .pluseq) :
    obs (parseToks orc m ([(.str name, n1), (asg, n2), (.str v, n3)] ++ post)) = obs (parseToks orc m post) :=
  C12_insert orc m f _ rest _ post hrun hfr hu.1 hu.2.2.2.2
    (C12_skip_value orc m f rest name v asg n1 n2 n3 hrun hfr hu hasg) (skipped_rel f _ hu.1 rfl rfl) rfl

/-- `unknown = { … }` / `unknown += { … }` -/
theorem C12_insert_list (orc : Oracle) (m : PM) (f : Frame) (rest : List Frame) (name : Bytes) (asg : Tok) (n1 n2 n3 n4 : Nat)
    (body post : List LTok) (hrun : m.status = .running) (hfr : m.frames = f :: rest) (hu : UnknownHere f name)
    (hasg : asg = .eq ∨ asg = .pluseq) (hbody : ∀ t ∈ body, t.1.inner = true ∧ t.1 ≠ .rbrace) (hi : f.ignore = .none) :
    obs (parseToks orc m (([(.str name, n1), (asg, n2), (.lbrace, n3)] ++ body ++ [(.rbrace, n4)]) ++ post)) = obs (parseToks orc m post) :=
  C12_insert orc m f _ rest _ post hrun hfr hu.1 hu.2.2.2.2
    (C12_skip_list orc m f rest name asg n1 n2 n3 n4 body hrun hfr hu hasg hbody) (skipped_rel f _ hu.1 hi rfl) rfl

/-- `unknown( … )` -/
theorem C12_insert_call (orc : Oracle) (m : PM) (f : Frame) (rest : List Frame) (name : Bytes) (n1 n2 n3 : Nat)
    (body post : List LTok) (hrun : m.status = .running) (hfr : m.frames = f :: rest) (hu : UnknownHere f name)
    (hbody : ∀ t ∈ body, t.1.inner = true ∧ t.1 ≠ .rparen) (hi : f.ignore = .none) :
    obs (parseToks orc m (([(.str name, n1), (.lparen, n2)] ++ body ++ [(.rparen, n3)]) ++ post)) = obs (parseToks orc m post) :=
  C12_insert orc m f _ rest _ post hrun hfr hu.1 hu.2.2.2.2
    (C12_skip_call orc m f rest name n1 n2 n3 body hrun hfr hu hbody) (skipped_rel f _ hu.1 hi rfl) rfl

/-- `unknown { … }` with any brace-balanced content of any size and nesting -/
theorem C12_insert_section (orc : Oracle) (m : PM) (f : Frame) (rest : List Frame) (name : Bytes) (n1 n2 n3 : Nat)
    (body post : List LTok) (hrun : m.status = .running) (hfr : m.frames = f :: rest) (hu : UnknownHere f name)
    (hin : ∀ t ∈ body, t.1.inner = true) (hbal : depthAfter 1 body = some 1) (hd : f.depth = 0) :
    obs (parseToks orc m (([(.str name, n1), (.lbrace, n2)] ++ body ++ [(.rbrace, n3)]) ++ post)) = obs (parseToks orc m post) :=
  C12_insert orc m f _ rest _ post hrun hfr hu.1 hu.2.2.2.2
    (C12_skip_section orc m f rest name n1 n2 n3 body hrun hfr hu hin hbal) (skipped_rel f _ hu.1 rfl hd) rfl

/-- `unknown title { … }` -/
theorem C12_insert_titled_section (orc : Oracle) (m : PM) (f : Frame) (rest : List Frame) (name title : Bytes) (n1 n2 n3 n4 : Nat)
    (body post : List LTok) (hrun : m.status = .running) (hfr : m.frames = f :: rest) (hu : UnknownHere f name)
    (hin : ∀ t ∈ body, t.1.inner = true) (hbal : depthAfter 1 body = some 1) (hd : f.depth = 0) :
    obs (parseToks orc m (([(.str name, n1), (.str title, n2), (.lbrace, n3)] ++ body ++ [(.rbrace, n4)]) ++ post)) = obs (parseToks orc m post) :=
  C12_insert orc m f _ rest _ post hrun hfr hu.1 hu.2.2.2.2
    (C12_skip_titled_section orc m f rest name title n1 n2 n3 n4 body hrun hfr hu hin hbal) (skipped_rel f _ hu.1 rfl hd) rfl


theorem clear_at_boundary (m : PM) (f : Frame) (rest : List Frame) (hinv : InvM m) (hfr : m.frames = f :: rest) (hs0 : f.state = .s0) :
    f.depth = 0 ∧ f.ignore = .none :=
  clear_of_inv (hinv.1 f (by simp [hfr])) (by simp [hs0]) (by simp [hs0])

/-- **C12 (insertion, at any boundary reached by a parse).** `pre` is any token sequence parsed from
the machine a parse starts with; if that leaves the parser at an item boundary where `name` is
undeclared (and not right after a deprecated option), then inserting the section `name { body }` —
`body` any brace-balanced token sequence — before any continuation `post` does not change the
observable outcome. -/
theorem C12_insert_reachable (orc : Oracle) (c : Cfg) (text : Bytes) (k0 : Nat) (pre body post : List LTok)
    (f : Frame) (rest : List Frame) (name : Bytes) (n1 n2 n3 : Nat)
    (hrun : (parseToks orc (startPM c text k0) pre).status = .running)
    (hfr : (parseToks orc (startPM c text k0) pre).frames = f :: rest) (hu : UnknownHere f name)
    (hin : ∀ t ∈ body, t.1.inner = true) (hbal : depthAfter 1 body = some 1) :
    obs (parseToks orc (startPM c text k0) (pre ++ (([(.str name, n1), (.lbrace, n2)] ++ body ++ [(.rbrace, n3)]) ++ post))) =
      obs (parseToks orc (startPM c text k0) (pre ++ post)) := by
  rw [parseToks_append, parseToks_append orc _ pre post]
  have hinv := parseToks_inv orc pre _ (startPM_inv c text k0)
  exact C12_insert_section orc _ f rest name n1 n2 n3 body post hrun hfr hu hin hbal
    (clear_at_boundary _ f rest hinv hfr hu.1).1

/-! ### non-vacuity: the hypotheses of `C12_insert_section` hold at the start of a parse -/
private def exCfg : Cfg := cfgInit [ .mk { name := [97], ty := .int, defInt := 5 } {} [] ] { ignoreUnknown := true }
private def exF : Frame := { cfg := exCfg }
private def exM0 : PM := { frames := [exF], srcs := [] }

example (orc : Oracle) (post : List LTok) :
    obs (parseToks orc exM0 (([(.str [122], 0), (.lbrace, 0)] ++ [(.str [113], 1), (.eq, 0), (.str [49], 0), (.str [117], 0), (.lbrace, 0), (.rbrace, 2)] ++ [(.rbrace, 0)]) ++ post)) =
      obs (parseToks orc exM0 post) :=
  C12_insert_section orc exM0 exF [] [122] 0 0 0 _ post rfl rfl
    ⟨rfl, by decide +kernel, by decide +kernel, by decide +kernel, by intro r o h; simp [exF] at h⟩
    (by decide) (by decide) rfl
end Confuse
