import Confuse.Lemmas.Parser
import Confuse.Lemmas.Loop
/-!
# C13 — including a file equals reading its text in place (position bookkeeping and failures)
-/
namespace Confuse

/-- **C13 (failing targets).** A target that is missing, is a directory, cannot be resolved through
the search path, or would exceed the depth limit rejects the parse with exactly one diagnostic in the
includer's file and line, and leaves the stack of open sources as it was. -/
theorem C13_errors (pe : PEnv) (m : PM) (f : Frame) (rest : List Frame) (name : Bytes) (hfr : m.frames = f :: rest)
    (hbad : m.srcs.length - 1 ≥ pe.maxInc ∨ resolveFile pe name = none ∨
      (∃ xf, resolveFile pe name = some xf ∧ openFile pe xf = none)) :
    (doInclude pe m name).status = .rejected ∧ (doInclude pe m name).srcs = m.srcs ∧
    ∃ cls, (doInclude pe m name).diags = ⟨f.cfg.info.filename, f.cfg.info.line, cls⟩ :: m.diags := by
  rw [doInclude_eq pe m name hfr]
  cases h : includeTarget pe m.srcs.length name with
  | error c => exact ⟨rfl, rfl, c, rfl⟩
  | ok p =>
    obtain ⟨hd, hr, ho⟩ := (includeTarget_ok pe _ name p.1 p.2).1 h
    rcases hbad with h | h | ⟨xf, hx, hnot⟩
    · exact absurd h hd
    · cases h.symm.trans hr
    · cases hx.symm.trans hr
      cases hnot.symm.trans ho

/-- **C13 (entering).** A good target becomes the current source; the includer's file name and line
are saved, the context continues at line 1 of the included file. -/
theorem C13_enter (pe : PEnv) (m : PM) (f : Frame) (rest : List Frame) (name xf content : Bytes)
    (hfr : m.frames = f :: rest) (hd : ¬ (m.srcs.length - 1 ≥ pe.maxInc))
    (hres : resolveFile pe name = some xf) (hfs : openFile pe xf = some content) :
    (doInclude pe m name).status = m.status ∧
    (doInclude pe m name).srcs = { rest := content, savedFile := f.cfg.info.filename, savedLine := f.cfg.info.line } :: m.srcs ∧
    ∃ f', (doInclude pe m name).frames = f' :: rest ∧ f'.cfg.info.filename = some xf ∧ f'.cfg.info.line = 1 ∧
      f'.cfg.opts = f.cfg.opts ∧ f'.state = f.state := by
  rw [doInclude_enter pe m name xf content hfr hd hres hfs]
  exact ⟨rfl, rfl, _, rfl, rfl, rfl, rfl, rfl⟩

/-- **C13 (returning).** At the end of an included source the loop pops it and puts the includer's
file name and line back; nothing else in the frame changes.  Together with `C13_enter`: the
position after `include("f")` is the position before it. -/
theorem C13_return (orc : Oracle) (pe : PEnv) (fuel : Nat) (m : PM) (f : Frame) (rest : List Frame) (src : Src) (srcs : List Src)
    (hrun : m.status = .running) (hfr : m.frames = f :: rest) (hs : m.srcs = src :: srcs) (hne : srcs ≠ [])
    (heof : (lexInitial pe.env 0 src.rest).tok = .eof) :
    parseLoop orc pe (fuel + 1) m =
      parseLoop orc pe fuel { m with
        frames := { f with cfg := f.cfg.setInfo { f.cfg.info with filename := src.savedFile, line := src.savedLine } } :: rest,
        srcs := srcs } :=
  loop_return orc pe fuel .initial m src srcs f rest hrun hs hne hfr heof

/-- save then restore is the identity on the includer's position -/
theorem C13_position_roundtrip (f : Frame) (xf : Bytes) :
    let saved : Src := { rest := [], savedFile := f.cfg.info.filename, savedLine := f.cfg.info.line }
    let inside := f.cfg.setInfo { f.cfg.info with filename := some xf, line := 1 }
    inside.setInfo { inside.info with filename := saved.savedFile, line := saved.savedLine } = f.cfg := by
  obtain ⟨⟨i, o⟩, _⟩ := f
  simp [Cfg.setInfo, Cfg.info, Cfg.opts]

/-- **C13 (depth limit).** -/
theorem C13_depth_limit (pe : PEnv) (m : PM) (f : Frame) (rest : List Frame) (name : Bytes) (hfr : m.frames = f :: rest)
    (h : m.srcs.length - 1 ≥ pe.maxInc) :
    (doInclude pe m name).diags = ⟨f.cfg.info.filename, f.cfg.info.line, .includeDepth⟩ :: m.diags := by
  rw [doInclude_eq pe m name hfr, includeTarget, if_pos h]
  rfl

end Confuse
