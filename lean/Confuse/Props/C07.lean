import Confuse.Model.Ledger
import Confuse.Props.C08
import Confuse.Props.C09
/-!
# C07 — everything acquired is released exactly once on every path (count level)
-/
namespace Confuse

/-! the user pointers stored in a tree, in the order `cfg_free` visits them -/
mutual
def ptrsVal (freeCb : Bool) : Val → List Bytes
  | .ptr (some p) => if freeCb then [p] else []
  | .sec c => ptrsCfg c
  | _ => []
def ptrsVals (freeCb : Bool) : List Val → List Bytes
  | [] => []
  | v :: vs => ptrsVal freeCb v ++ ptrsVals freeCb vs
def ptrsOpt : Opt → List Bytes
  | .mk i _ _ vals _ => ptrsVals i.freeCb vals
def ptrsOpts : List Opt → List Bytes
  | [] => []
  | o :: os => ptrsOpt o ++ ptrsOpts os
def ptrsCfg : Cfg → List Bytes
  | .mk _ opts => ptrsOpts opts
end

mutual
theorem freeEvVal_eq (fc : Bool) : (v : Val) → freeEvVal fc v = (ptrsVal fc v).map CbCall.free
  | .ptr (some p) => by cases fc <;> simp [freeEvVal, ptrsVal]
  | .sec c => by simp [freeEvVal, ptrsVal, freeEvCfg_eq c]
  | .ptr none | .int _ | .flt _ | .bool _ | .str _ => by simp [freeEvVal, ptrsVal]
theorem freeEvVals_eq (fc : Bool) : (vs : List Val) → freeEvVals fc vs = (ptrsVals fc vs).map CbCall.free
  | [] => by simp [freeEvVals, ptrsVals]
  | v :: vs => by simp [freeEvVals, ptrsVals, freeEvVal_eq fc v, freeEvVals_eq fc vs]
theorem freeEvOpt_eq : (o : Opt) → freeEvOpt o = (ptrsOpt o).map CbCall.free
  | .mk i _ _ vals _ => by simp [freeEvOpt, ptrsOpt, freeEvVals_eq i.freeCb vals]
theorem freeEvOpts_eq : (os : List Opt) → freeEvOpts os = (ptrsOpts os).map CbCall.free
  | [] => by simp [freeEvOpts, ptrsOpts]
  | o :: os => by simp [freeEvOpts, ptrsOpts, freeEvOpt_eq o, freeEvOpts_eq os]
/-- **C07 (release function, exactly once).** Freeing a context calls the release function once for
every stored non-null pointer value of an option that has one — every section instance at every
depth included — and for nothing else. -/
theorem freeEvCfg_eq : (c : Cfg) → freeEvCfg c = (ptrsCfg c).map CbCall.free
  | .mk _ opts => by simp [freeEvCfg, ptrsCfg, freeEvOpts_eq opts]
end

theorem C07_free_releases_each_pointer_once (c : Cfg) : apiFree c = (ptrsCfg c).map CbCall.free := freeEvCfg_eq c

/-- **C07 (never twice).** Once the values of an option have been released, releasing again finds
nothing: the option holds no value any more. -/
theorem C07_never_twice (o : Opt) : (freeValue o).2 = freeEvOpt o ∧ freeEvOpt (freeValue o).1 = [] ∧ (freeValue o).1.vals = [] := by
  cases o; exact ⟨rfl, rfl, rfl⟩

/-- **C07 (replacing a pointer value hands the old one over).** -/
theorem C07_replace_releases_old (ci : CfgInfo) (o1 : Opt) (p : Option Bytes) (q : Bytes) (value : Option Bytes)
    (hv : o1.vals = [.ptr (some q)]) (hcb : o1.info.freeCb = true) :
    (setoptStore ci o1 (.ptr p) value false none).2.2 = [.free q] ∧
    (setoptStore ci o1 (.ptr p) value false none).2.1 = [.ptr p] := by
  simp [setoptStore, hv, hcb, listSet]

/-- **C07 (a replaced or removed section releases everything inside it).** -/
theorem C07_section_replace_releases (ci : CfgInfo) (o1 : Opt) (value : Option Bytes) (i : Nat) (old : Cfg)
    (hm : o1.flags.multi = true) (hold : o1.vals[i]? = some (.sec old)) :
    (setoptStore ci o1 .sec value true (some i)).2.2 = freeEvCfg old := by
  simp [setoptStore, hold, hm]

theorem C07_rmnsec_releases (o : Opt) (i : Nat) (old : Cfg) (hs : o.ty = .sec) (hm : o.flags.multi = true)
    (hold : o.vals[i]? = some (.sec old)) :
    (rmnsec o i).2.2 = freeEvCfg old ∧ (rmnsec o i).1.vals = o.vals.eraseIdx i := by
  rw [rmnsec_ok o i hs (List.getElem?_eq_some_iff.1 hold).1 (.inr (.inr hm)), hold]
  exact ⟨rfl, rfl⟩

/-- **C07 (sources).** After any parse, accepted or aborted at any point, no included source stays
open and the scanner's buffers are back to where they were (from C08). -/
theorem C07_sources_closed (g : ScanG) (orc : Oracle) (pe : PEnv) (c : Cfg) (text : Bytes) :
    (parseFpG g orc pe c text).2.incDepth = g.incDepth ∧ (parseFpG g orc pe c text).2.bufDepth = g.bufDepth :=
  ⟨(C08_clean g orc pe c text).1, (C08_clean g orc pe c text).2.1⟩

/-- footprint of the empty context of a schema: what `cfg_init` allocates is a function of the declarations only -/
theorem C07_footprint_append (vals : List Val) (v : Val) : footVals (vals ++ [v]) = footVals vals + footVal v := by
  induction vals with
  | nil => simp [footVals]
  | cons a as ih => simp [footVals, ih, Nat.add_assoc]

end Confuse
