import Confuse.Props.C05L
/-!
# C05 — configurations of ANY depth (untitled multi sections and single sections)

Token level: `section_item_around` - what `name {`, any body, `}` do to the machine, for either kind of section (`Enters`);
`BodySteps` - what the tokens of an option list do, assumed for section bodies and proved for the list around them;
`C05_tree_steps` closes the loop by recursion over the nesting depth.  Byte level likewise (`LexBody`, `lex_tree`), and
`C05_tree_roundtrip` puts the two together.  `C05S` / `C05T` restate depth one.
-/
namespace Confuse

/-- `cfg_setopt` on a single section option that has its instance: the instance stays, the option is marked set -/
theorem setopt_single (orc : Oracle) (k : Nat) (ci : CfgInfo) (o : Opt) (s : Cfg) (ho : secOpt o) (hm : o.flags.multi = false)
    (hl : o.flags.list = false) (hv : o.vals = [.sec s]) :
    setopt orc k ci o none = ⟨Opt.mk o.info { o.flags with modified := true } o.subs [.sec s] o.comment, some 0, [], []⟩ := by
  exact setopt_single_any orc k ci o none s ho hm hl hv

/-- the name token of an item whose name resolves silently to an untitled section option -/
theorem pstep_name_sec (orc : Oracle) (m : PM) (f : Frame) (rest : List Frame) (name : Bytes) (n1 : Nat) (r : OptRef) (o : Opt)
    (hrun : m.status = .running) (hfr : m.frames = f :: rest) (hst : f.state = .s0)
    (hnd : noPendingDeprecated f)
    (hres : (getoptPath f.cfg name).ref = some r) (hsil : (getoptPath f.cfg name).diags = [])
    (hget : f.cfg.getOpt r = some o) (hty : o.ty = .sec) (hnt : o.flags.title = false) :
    pstep orc m (.str name) n1 =
      { m with frames := { f with cfg := f.cfg.setLine (f.cfg.line + n1), opt := some r, state := .s5 } :: rest } := by
  rw [pstep_name_resolved orc m f rest name n1 r o hrun hfr hst hnd hres hsil hget]
  simp [nameState, hty, hnt]

/-- the instance the opening brace creates, as the child frame sees it: the option's declarations instantiated, at the
enclosing context's line and under its file name -/
def newInstance (pc : Cfg) (o : Opt) : Cfg :=
  let S := mkSection pc.info o none
  S.setInfo { S.info with line := pc.line,
                          filename := (match pc.info.filename with | some n => some n | none => S.info.filename) }

/-- the existing instance as the child frame sees it: at the enclosing context's line and under its file name -/
def enterInstance (pc s : Cfg) : Cfg :=
  s.setInfo { s.info with line := pc.line,
                          filename := (match pc.info.filename with | some n => some n | none => s.info.filename) }

theorem enterInstance_opts (pc s : Cfg) : (enterInstance pc s).opts = s.opts := rfl

theorem enterInstance_flags (pc s : Cfg) : (enterInstance pc s).flags = s.flags := rfl

theorem newInstance_eq (pc : Cfg) (o : Opt) : newInstance pc o = enterInstance pc (mkSection pc.info o none) := rfl

def Opt.withInstance (o : Opt) (s : Cfg) : Opt :=
  Opt.mk o.info { o.flags with modified := true } o.subs (o.vals ++ [.sec s]) o.comment

/-- the two kinds of section (`pstep_lbrace_sec`, `pstep_lbrace_single`) differ only in `o1`, `i`, `s` -/
theorem pstep_lbrace_enter (orc : Oracle) (m : PM) (f : Frame) (rest : List Frame) (n : Nat) (r : OptRef) (o o1 : Opt) (i : Nat) (s : Cfg)
    (hrun : m.status = .running) (hfr : m.frames = f :: rest) (hst : f.state = .s5) (hopt : f.opt = some r) (hot : f.opttitle = none)
    (hget : f.cfg.getOpt r = some o)
    (hset : setopt orc m.k (f.cfg.setLine (f.cfg.line + n)).info o none = ⟨o1, some i, [], []⟩)
    (hi : o1.vals[i]? = some (.sec s)) :
    pstep orc m .lbrace n =
      { m with frames :=
          { cfg := enterInstance ((f.cfg.setLine (f.cfg.line + n)).setOpt r o1) s, level := f.level + 1, back := some (r, i) } ::
          { f with cfg := (f.cfg.setLine (f.cfg.line + n)).setOpt r o1, opttitle := none } :: rest,
               maxDepth := max m.maxDepth (rest.length + 2) } := by
  rw [pstep_running orc m f rest _ n hrun hfr rfl (.inl rfl), hst]
  simp only [stepFn, step_s5, show (f.addLine n).opt = some r from hopt, (getOpt_addLine f n r).trans hget, Option.bind,
    show (f.addLine n).opttitle = none from hot, show (f.addLine n).state = .s5 from hst,
    show setopt orc ({ m with frames := f.addLine n :: rest } : PM).k (f.addLine n).cfg.info o none = _ from hset, hi, addCalls_nil,
    addDiags_nil, hopt]
  rfl

/-- `{` after the name of an untitled multi section: a new instance is appended and a frame for it pushed -/
theorem pstep_lbrace_sec (orc : Oracle) (m : PM) (f : Frame) (rest : List Frame) (n : Nat) (r : OptRef) (o : Opt)
    (hrun : m.status = .running) (hfr : m.frames = f :: rest) (hst : f.state = .s5) (hopt : f.opt = some r) (hot : f.opttitle = none)
    (hget : f.cfg.getOpt r = some o) (ho : secOpt o) (hm : o.flags.multi = true) (ht : o.flags.title = false) :
    pstep orc m .lbrace n =
      { m with frames :=
          { cfg := newInstance ((f.cfg.setLine (f.cfg.line + n)).setOpt r (o.withInstance (mkSection (f.cfg.setLine (f.cfg.line + n)).info o none))) o,
            level := f.level + 1, back := some (r, o.vals.length) } ::
          { f with cfg := (f.cfg.setLine (f.cfg.line + n)).setOpt r (o.withInstance (mkSection (f.cfg.setLine (f.cfg.line + n)).info o none)),
                   opttitle := none } :: rest,
               maxDepth := max m.maxDepth (rest.length + 2) } := by
  rw [newInstance_eq, setOpt_info]
  exact pstep_lbrace_enter orc m f rest n r o _ _ _ hrun hfr hst hopt hot hget (setopt_new_untitled orc _ _ o ho hm ht)
    (by simp [Opt.withInstance, Opt.vals])

/-- `{` after the name of a single section: a frame for its one instance is pushed -/
theorem pstep_lbrace_single (orc : Oracle) (m : PM) (f : Frame) (rest : List Frame) (n : Nat) (r : OptRef) (o : Opt) (s : Cfg)
    (hrun : m.status = .running) (hfr : m.frames = f :: rest) (hst : f.state = .s5) (hopt : f.opt = some r) (hot : f.opttitle = none)
    (hget : f.cfg.getOpt r = some o) (ho : secOpt o) (hm : o.flags.multi = false) (hl : o.flags.list = false) (hv : o.vals = [.sec s]) :
    pstep orc m .lbrace n =
      { m with frames :=
          { cfg := enterInstance ((f.cfg.setLine (f.cfg.line + n)).setOpt r (Opt.mk o.info { o.flags with modified := true } o.subs [.sec s] o.comment)) s,
            level := f.level + 1, back := some (r, 0) } ::
          { f with cfg := (f.cfg.setLine (f.cfg.line + n)).setOpt r (Opt.mk o.info { o.flags with modified := true } o.subs [.sec s] o.comment),
                   opttitle := none } :: rest,
               maxDepth := max m.maxDepth (rest.length + 2) } :=
  pstep_lbrace_enter orc m f rest n r o _ _ _ hrun hfr hst hopt hot hget (setopt_single orc _ _ o s ho hm hl hv) rfl

/-- `}` at an item boundary of a section's frame: the instance is written back into the enclosing frame, which goes on
at an item boundary, at the section's line -/
theorem pstep_rbrace_pop (orc : Oracle) (m : PM) (ch p : Frame) (rest : List Frame) (n : Nat) (r : OptRef) (i : Nat) (op : Opt)
    (hrun : m.status = .running) (hfr : m.frames = ch :: p :: rest) (hst : ch.state = .s0) (hlev : ch.level ≠ 0)
    (hnd : noPendingDeprecated ch) (hback : ch.back = some (r, i))
    (hpo : p.opt = some r) (hget : p.cfg.getOpt r = some op) (hvc : op.info.validCb = false) :
    pstep orc m .rbrace n =
      { m with frames :=
          { p with cfg := (p.cfg.setOpt r (op.setVals (listSet op.vals i (.sec (ch.cfg.setLine (ch.cfg.line + n)))))).afterSection
                            (ch.cfg.setLine (ch.cfg.line + n)),
                   state := .s0 } :: rest } := by
  rw [pstep_running orc m ch (p :: rest) _ n hrun hfr rfl (.inl rfl), hst]
  simp only [stepFn, step_s0, handleDeprecated_id _ _ (noPending_addLine ch n hnd),
    show ((ch.addLine n).level == 0) = false from beq_false_of_ne hlev, Bool.false_eq_true, if_false, writeBack,
    show (ch.addLine n).back = some (r, i) from hback, hget, runValid_spec, validVerdict, hpo, getOpt_afterSection,
    getOpt_setOpt _ r op _ hget, show ∀ vs, (op.setVals vs).info.validCb = false from fun _ => by cases op; exact hvc, Option.map,
    addCalls_nil]
  rfl

structure SecDecl (o : Opt) : Prop where
  sec : secOpt o
  multi : o.flags.multi = true
  notitle : o.flags.title = false
  noValid : o.info.validCb = false
  notDep : o.flags.deprecated = false
  name : plainName o.name

def Opt.withInstances (o : Opt) (ss : List Cfg) : Opt :=
  Opt.mk o.info { o.flags with modified := true } o.subs (o.vals ++ ss.map Val.sec) o.comment

theorem mkSection_congr (ci : CfgInfo) (o o' : Opt) (hn : o'.name = o.name) (hk : o'.flags.keystrval = o.flags.keystrval) (hs : o'.subs = o.subs) :
    mkSection ci o' none = mkSection ci o none := by
  unfold mkSection sectionInfo
  rw [hn, hk, hs]

theorem secDecl_withInstances (o : Opt) (ss : List Cfg) (hd : SecDecl o) : SecDecl (o.withInstances ss) := by
  obtain ⟨⟨h1, h2⟩, h3, h4, h5, h6, h7⟩ := hd
  cases o
  exact ⟨⟨h1, h2⟩, h3, h4, h5, h6, h7⟩

theorem withInstances_withInstances (o : Opt) (s : Cfg) (ss : List Cfg) :
    (Opt.mk o.info { o.flags with modified := true } o.subs (o.vals ++ [.sec s]) o.comment).withInstances ss = o.withInstances (s :: ss) := by
  cases o
  simp [Opt.withInstances, Opt.info, Opt.flags, Opt.subs, Opt.vals, Opt.comment, List.append_assoc]

structure SingleDecl (o : Opt) : Prop where
  sec : secOpt o
  single : o.flags.multi = false
  nolist : o.flags.list = false
  notitle : o.flags.title = false
  noValid : o.info.validCb = false
  notDep : o.flags.deprecated = false
  name : plainName o.name

/-- what the tokens `ts` of an option list `os` (relation `P`) do to ANY frame whose options `os0` are the declared
counterparts (relation `A`, which includes the distinctness of names under the frame's case rule): the machine ends at an
item boundary of the same frame, the options related to the printed ones by `R` -/
def BodySteps (orc : Oracle) (P : List Opt → List (Tok × Nat) → Prop) (A : Bool → List Opt → List Opt → Prop)
    (R : List Opt → List Opt → Prop) : Prop :=
  ∀ (os os0 : List Opt) (ts : List (Tok × Nat)) (m : PM) (f : Frame) (rest : List Frame),
    P os ts → A f.cfg.flags.nocase os os0 → m.status = .running → m.frames = f :: rest → AtItem f → f.opttitle = none →
    f.cfg.opts = os0 →
    ∃ f' done md, parseToks orc m ts = { m with frames := f' :: rest, maxDepth := md } ∧ AtItem f' ∧ f'.opttitle = none ∧
      f'.level = f.level ∧ f'.back = f.back ∧ f'.cfg.opts = done ∧ f'.cfg.flags = f.cfg.flags ∧ R done os

/-- the flat case: `flat_steps` -/
theorem bodySteps_flat (orc : Oracle) :
    BodySteps orc FlatToks (fun nc os os0 => All2 Aligned os os0 ∧ List.Pairwise (fun a b => titleEq nc a.name b.name = false) os)
      (fun done os => All2 (fun r o => r.vals = o.vals) done os) := by
  intro os os0 ts m f rest hP hA hrun hfr hat hot hopts
  obtain ⟨f', done, e, hat', hlev, hbk, hot', ho, hfl, _, hv, _⟩ :=
    flat_steps orc os os0 ts m f rest [] hP hA.1 hrun hfr hat hopts (by intro p hp; cases hp) hA.2
  exact ⟨f', done, m.maxDepth, e, hat', hot'.trans hot, hlev, hbk, ho, hfl, hv⟩

/-- what the section round trip needs of a section option `o0`, whichever kind it is: an untitled section option of plain
name for which `cfg_setopt` (no title) succeeds silently and hands back a cell where instance `s ci` stands (`ci`: the
context's `CfgInfo`, which `mkSection` copies), such that writing an instance `s'` back to that cell gives `res s'` -/
structure Enters (orc : Oracle) (o0 : Opt) (s : CfgInfo → Cfg) (res : Cfg → Opt) : Prop where
  name : plainName o0.name
  ty : o0.ty = .sec
  notitle : o0.flags.title = false
  set : ∀ k ci, ∃ o1 i, setopt orc k ci o0 none = ⟨o1, some i, [], []⟩ ∧ o1.vals[i]? = some (.sec (s ci)) ∧
    o1.info.validCb = false ∧ ∀ s', o1.setVals (listSet o1.vals i (.sec s')) = res s'
  notDep : ∀ s', (res s').flags.deprecated = false

theorem SecDecl.enters (orc : Oracle) {o0 : Opt} (hd : SecDecl o0) :
    Enters orc o0 (fun ci => mkSection ci o0 none)
      (fun s' => Opt.mk o0.info { o0.flags with modified := true } o0.subs (o0.vals ++ [.sec s']) o0.comment) :=
  ⟨hd.name, hd.sec.1, hd.notitle,
   fun k ci => ⟨_, _, setopt_new_untitled orc k ci o0 hd.sec hd.multi hd.notitle, by simp [Opt.vals], by cases o0; exact hd.noValid,
     fun s' => by show Opt.setVals _ (listSet (o0.vals ++ [_]) o0.vals.length _) = _; rw [listSet_append_cons]; rfl⟩,
   fun _ => by cases o0; exact hd.notDep⟩

theorem SingleDecl.enters (orc : Oracle) {o0 : Opt} {s0 : Cfg} (hd : SingleDecl o0) (hv0 : o0.vals = [.sec s0]) :
    Enters orc o0 (fun _ => s0) (fun s' => Opt.mk o0.info { o0.flags with modified := true } o0.subs [.sec s'] o0.comment) :=
  ⟨hd.name, hd.sec.1, hd.notitle,
   fun k ci => ⟨_, 0, setopt_single orc k ci o0 s0 hd.sec hd.single hd.nolist hv0, rfl, by cases o0; exact hd.noValid, fun _ => rfl⟩,
   fun _ => by cases o0; exact hd.notDep⟩

/-- Stated around an arbitrary body: name and brace push a child frame `ch`; whatever token list leads from there to an
item boundary `ch'` of that frame, the closing brace writes `ch'`'s configuration back. -/
theorem section_item_around (orc : Oracle) (m : PM) (f : Frame) (rest : List Frame) (o0 : Opt) (pre post : List Opt)
    {s : CfgInfo → Cfg} {res : Cfg → Opt} (n1 n2 : Nat) (he : Enters orc o0 s res)
    (hrun : m.status = .running) (hfr : m.frames = f :: rest) (hat : AtItem f) (hot : f.opttitle = none)
    (hopts : f.cfg.opts = pre ++ o0 :: post)
    (hpre : ∀ p ∈ pre, titleEq f.cfg.flags.nocase p.name o0.name = false) :
    ∃ ci ch below, ci.flags = f.cfg.flags ∧ ch.cfg.opts = (s ci).opts ∧ ch.cfg.flags = (s ci).flags ∧ AtItem ch ∧ ch.opttitle = none ∧
      ∀ (body : List (Tok × Nat)) (n3 : Nat) (ch' : Frame) (md : Nat) (Rr : List Opt → Prop),
        parseToks orc { m with frames := ch :: below :: rest, maxDepth := max m.maxDepth (rest.length + 2) } body =
          { m with frames := ch' :: below :: rest, maxDepth := md } →
        AtItem ch' → ch'.level = ch.level → ch'.back = ch.back → Rr ch'.cfg.opts →
        ∃ f' r s', parseToks orc m ([(.str o0.name, n1), (.lbrace, n2)] ++ body ++ [(.rbrace, n3)]) =
            { m with frames := f' :: rest, maxDepth := md } ∧
          AtItem f' ∧ f'.opttitle = none ∧ f'.level = f.level ∧ f'.back = f.back ∧
          f'.cfg.opts = pre ++ r :: post ∧ f'.cfg.flags = f.cfg.flags ∧ r = res s' ∧ Rr s'.opts := by
  let r : OptRef := ⟨[], pre.length⟩
  have hlook := getoptPath_top f.cfg o0.name pre o0 post he.name hopts hpre (titleEq_refl _ _)
  have hget := getOpt_top f.cfg pre o0 post hopts
  let F1 : Frame := { f with cfg := f.cfg.setLine (f.cfg.line + n1), opt := some r, state := .s5 }
  have e1 : pstep orc m (.str o0.name) n1 = { m with frames := F1 :: rest } :=
    pstep_name_sec orc m f rest o0.name n1 r o0 hrun hfr hat.st hat.nd hlook.1 hlook.2 hget he.ty he.notitle
  have g1 : F1.cfg.getOpt r = some o0 := by show (f.cfg.setLine _).getOpt r = some o0; rw [getOpt_setLine]; exact hget
  let ci := (F1.cfg.setLine (F1.cfg.line + n2)).info
  obtain ⟨o1, i, hset, hi, hvc, hres⟩ := he.set m.k ci
  let P : Cfg := (F1.cfg.setLine (F1.cfg.line + n2)).setOpt r o1
  let ch : Frame := { cfg := enterInstance P (s ci), level := f.level + 1, back := some (r, i) }
  let F2 : Frame := { F1 with cfg := P, opttitle := none }
  have e2 : pstep orc { m with frames := F1 :: rest } .lbrace n2 =
      { m with frames := ch :: F2 :: rest, maxDepth := max m.maxDepth (rest.length + 2) } :=
    pstep_lbrace_enter orc _ F1 rest n2 r o0 o1 i (s ci) hrun rfl rfl rfl hot g1 hset hi
  have hPflags : P.flags = f.cfg.flags := by
    rw [setOpt_flags, setLine_flags, setLine_flags]
  have gP : F2.cfg.getOpt r = some o1 := getOpt_setOpt _ r o0 _ (by rw [getOpt_setLine]; exact g1)
  refine ⟨ci, ch, F2, by rw [← hPflags]; exact (setOpt_flags _ _ _).symm, enterInstance_opts _ _, enterInstance_flags _ _,
    .fresh _ _ _, rfl, ?_⟩
  intro body n3 ch' md Rr e3 hat3 hlev3 hbk3 hR
  let chL := ch'.cfg.setLine (ch'.cfg.line + n3)
  have e4 := pstep_rbrace_pop orc { m with frames := ch' :: F2 :: rest, maxDepth := md } ch' F2 rest n3 r i o1
    hrun rfl hat3.st (by rw [hlev3]; exact Nat.succ_ne_zero _) hat3.nd hbk3 rfl gP hvc
  rw [hres chL] at e4
  refine ⟨{ F2 with cfg := (F2.cfg.setOpt r (res chL)).afterSection chL, state := .s0 }, _, chL, ?_,
    ⟨rfl, hat.cm, noPending_of_opt rfl ((getOpt_afterSection _ _ _).trans (getOpt_setOpt _ _ _ _ gP)) (he.notDep chL)⟩, rfl, rfl, rfl, ?_, ?_,
    rfl, hR⟩
  · have e12 : parseToks orc m [(.str o0.name, n1), (.lbrace, n2)] =
        { m with frames := ch :: F2 :: rest, maxDepth := max m.maxDepth (rest.length + 2) } := by
      rw [parseToks_cons, parseToks_cons, parseToks_nil, e1, e2]
    rw [parseToks_append, parseToks_append, e12, e3]
    exact e4
  · simp only [Cfg.afterSection_opts]
    exact setOpt_top _ pre o1 (res chL) post (setOpt_top _ pre o0 _ post (by simp only [opts_setLine]; exact hopts))
  · simp only [Cfg.afterSection_flags, setOpt_flags]; exact hPflags

/-- **one printed instance of an untitled multi section, any body.** -/
theorem section_item_gen (orc : Oracle) {P : List Opt → List (Tok × Nat) → Prop} {A : Bool → List Opt → List Opt → Prop}
    {R : List Opt → List Opt → Prop} (hbs : BodySteps orc P A R) (m : PM) (f : Frame) (rest : List Frame) (o0 : Opt) (pre post : List Opt) (c : Cfg)
    (body : List (Tok × Nat)) (n1 n2 n3 : Nat)
    (hrun : m.status = .running) (hfr : m.frames = f :: rest) (hat : AtItem f) (hot : f.opttitle = none)
    (hopts : f.cfg.opts = pre ++ o0 :: post)
    (hpre : ∀ p ∈ pre, titleEq f.cfg.flags.nocase p.name o0.name = false)
    (hd : SecDecl o0) (hbody : P c.opts body)
    (hal : ∀ ci, A f.cfg.flags.nocase c.opts (mkSection ci o0 none).opts) :
    ∃ f' res s' md, parseToks orc m ([(.str o0.name, n1), (.lbrace, n2)] ++ body ++ [(.rbrace, n3)]) =
        { m with frames := f' :: rest, maxDepth := md } ∧
      AtItem f' ∧ f'.opttitle = none ∧ f'.level = f.level ∧ f'.back = f.back ∧
      f'.cfg.opts = pre ++ res :: post ∧ f'.cfg.flags = f.cfg.flags ∧
      res = Opt.mk o0.info { o0.flags with modified := true } o0.subs (o0.vals ++ [.sec s']) o0.comment ∧
      R s'.opts c.opts := by
  obtain ⟨ci, ch, below, hci, hco, hcf, hcat, hcot, K⟩ :=
    section_item_around orc m f rest o0 pre post n1 n2 (hd.enters orc) hrun hfr hat hot hopts hpre
  have hnc : ch.cfg.flags.nocase = f.cfg.flags.nocase := by rw [hcf, ← hci]; rfl
  obtain ⟨ch', done, md, e3, hat3, _, hlev3, hbk3, hopts3, _, hv3⟩ :=
    hbs c.opts _ body { m with frames := ch :: below :: rest, maxDepth := max m.maxDepth (rest.length + 2) } ch (below :: rest) hbody
      (by rw [hnc]; exact hal ci) hrun rfl hcat hcot hco
  obtain ⟨f', r, s', h⟩ := K body n3 ch' md (R · c.opts) e3 hat3 hlev3 hbk3 (hopts3 ▸ hv3)
  exact ⟨f', r, s', md, h⟩

/-- **the printed instance of a single section, any body.** -/
theorem single_section_item_gen (orc : Oracle) {P : List Opt → List (Tok × Nat) → Prop} {A : Bool → List Opt → List Opt → Prop}
    {R : List Opt → List Opt → Prop} (hbs : BodySteps orc P A R) (m : PM) (f : Frame) (rest : List Frame) (o0 : Opt) (s0 : Cfg) (pre post : List Opt) (c : Cfg)
    (body : List (Tok × Nat)) (n1 n2 n3 : Nat)
    (hrun : m.status = .running) (hfr : m.frames = f :: rest) (hat : AtItem f) (hot : f.opttitle = none)
    (hopts : f.cfg.opts = pre ++ o0 :: post)
    (hpre : ∀ p ∈ pre, titleEq f.cfg.flags.nocase p.name o0.name = false)
    (hd : SingleDecl o0) (hv0 : o0.vals = [.sec s0]) (hbody : P c.opts body)
    (hal : A s0.flags.nocase c.opts s0.opts) :
    ∃ f' res s' md, parseToks orc m ([(.str o0.name, n1), (.lbrace, n2)] ++ body ++ [(.rbrace, n3)]) =
        { m with frames := f' :: rest, maxDepth := md } ∧
      AtItem f' ∧ f'.opttitle = none ∧ f'.level = f.level ∧ f'.back = f.back ∧
      f'.cfg.opts = pre ++ res :: post ∧ f'.cfg.flags = f.cfg.flags ∧
      res = Opt.mk o0.info { o0.flags with modified := true } o0.subs [.sec s'] o0.comment ∧
      R s'.opts c.opts := by
  obtain ⟨ci, ch, below, hci, hco, hcf, hcat, hcot, K⟩ :=
    section_item_around orc m f rest o0 pre post n1 n2 (hd.enters orc hv0) hrun hfr hat hot hopts hpre
  obtain ⟨ch', done, md, e3, hat3, _, hlev3, hbk3, hopts3, _, hv3⟩ :=
    hbs c.opts _ body { m with frames := ch :: below :: rest, maxDepth := max m.maxDepth (rest.length + 2) } ch (below :: rest) hbody
      (by rw [hcf]; exact hal) hrun rfl hcat hcot hco
  obtain ⟨f', r, s', h⟩ := K body n3 ch' md (R · c.opts) e3 hat3 hlev3 hbk3 (hopts3 ▸ hv3)
  exact ⟨f', r, s', md, h⟩


/-- the tokens of the printed instances of ONE untitled multi section option, in order -/
inductive InstToksP (P : List Opt → List (Tok × Nat) → Prop) (name : Bytes) : List Cfg → List (Tok × Nat) → Prop
  | nil : InstToksP P name [] []
  | cons (c : Cfg) (cs : List Cfg) (body ts : List (Tok × Nat)) (n1 n2 n3 : Nat) :
      P c.opts body → InstToksP P name cs ts →
      InstToksP P name (c :: cs) ([(.str name, n1), (.lbrace, n2)] ++ body ++ [(.rbrace, n3)] ++ ts)

/-- **all printed instances of one section option.** `name { … } name { … } …` (at least one) appends, in order, one
instance per printed instance, each holding exactly the printed values. -/
theorem inst_steps_gen (orc : Oracle) {P : List Opt → List (Tok × Nat) → Prop} {A : Bool → List Opt → List Opt → Prop}
    {R : List Opt → List Opt → Prop} (hbs : BodySteps orc P A R) : ∀ (cs : List Cfg) (c : Cfg) (ts : List (Tok × Nat)) (m : PM) (f : Frame) (rest : List Frame) (o0 : Opt) (pre post : List Opt),
    InstToksP P o0.name (c :: cs) ts →
    m.status = .running → m.frames = f :: rest → AtItem f → f.opttitle = none →
    f.cfg.opts = pre ++ o0 :: post →
    (∀ p ∈ pre, titleEq f.cfg.flags.nocase p.name o0.name = false) →
    SecDecl o0 →
    (∀ x ∈ c :: cs, ∀ ci, A f.cfg.flags.nocase x.opts (mkSection ci o0 none).opts) →
    ∃ f' ss md, parseToks orc m ts = { m with frames := f' :: rest, maxDepth := md } ∧
      AtItem f' ∧ f'.opttitle = none ∧ f'.level = f.level ∧ f'.back = f.back ∧
      f'.cfg.opts = pre ++ (o0.withInstances ss) :: post ∧ f'.cfg.flags = f.cfg.flags ∧
      All2 (fun s' x => R s'.opts x.opts) ss (c :: cs) := by
  intro cs
  induction cs with
  | nil =>
    intro c ts m f rest o0 pre post hts hrun hfr hat hot hopts hpre hd hall
    cases hts with
    | cons _ _ body ts' n1 n2 n3 hb hrest =>
      cases hrest
      obtain ⟨f1, res, s', md1, e1, hat1, hot1, hlev1, hbk1, hopts1, hfl1, hres, hv⟩ :=
        section_item_gen orc hbs m f rest o0 pre post c body n1 n2 n3 hrun hfr hat hot hopts hpre hd hb (hall c (by simp))
      exact ⟨f1, [s'], md1, by simpa using e1, hat1, hot1, hlev1, hbk1, by rw [hopts1, hres]; rfl, hfl1, .cons hv .nil⟩
  | cons c2 cs ih =>
    intro c ts m f rest o0 pre post hts hrun hfr hat hot hopts hpre hd hall
    cases hts with
    | cons _ _ body ts' n1 n2 n3 hb hrest =>
      obtain ⟨f1, res, s', md1, e1, hat1, hot1, hlev1, hbk1, hopts1, hfl1, hres, hv⟩ :=
        section_item_gen orc hbs m f rest o0 pre post c body n1 n2 n3 hrun hfr hat hot hopts hpre hd hb (hall c (by simp))
      -- the remaining instances go to `res`, which is declared as `o0` is
      have hname : res.name = o0.name := by rw [hres]; rfl
      have hmk : ∀ ci, mkSection ci res none = mkSection ci o0 none := fun ci =>
        mkSection_congr ci o0 res hname (by rw [hres]; cases o0; rfl) (by rw [hres]; cases o0; rfl)
      obtain ⟨f2, ss, md, e2, hat2, hot2, hlev2, hbk2, hopts2, hfl2, hv2⟩ :=
        ih c2 ts' { m with frames := f1 :: rest, maxDepth := md1 } f1 rest res pre post
          (by rw [hname]; exact hrest) hrun rfl hat1 hot1 hopts1 (by rw [hfl1, hname]; exact hpre)
          (hres ▸ secDecl_withInstances o0 [s'] hd)
          (fun x hx ci => by rw [hmk, hfl1]; exact hall x (List.mem_cons_of_mem _ hx) ci)
      exact ⟨f2, s' :: ss, md, by rw [parseToks_append, e1, e2], hat2, hot2, hlev2.trans hlev1, hbk2.trans hbk1,
        by rw [hopts2, hres, withInstances_withInstances], hfl2.trans hfl1, .cons hv hv2⟩

/-- the tokens of an option list whose section bodies scan to tokens in `P`: option after option; a section option
contributes the tokens of its instances, none if it has none -/
inductive Tree1ToksP (P : List Opt → List (Tok × Nat) → Prop) : List Opt → List (Tok × Nat) → Prop
  | nil : Tree1ToksP P [] []
  | plain (o : Opt) (os : List Opt) (ts tss : List (Tok × Nat)) :
      o.ty ≠ .sec → OptToks o ts → Tree1ToksP P os tss → Tree1ToksP P (o :: os) (ts ++ tss)
  | secNone (o : Opt) (os : List Opt) (tss : List (Tok × Nat)) :
      o.ty = .sec → o.vals = [] → Tree1ToksP P os tss → Tree1ToksP P (o :: os) tss
  | sec (o : Opt) (os : List Opt) (c : Cfg) (cs : List Cfg) (ts tss : List (Tok × Nat)) :
      o.ty = .sec → o.vals = (c :: cs).map Val.sec → InstToksP P o.name (c :: cs) ts → Tree1ToksP P os tss →
      Tree1ToksP P (o :: os) (ts ++ tss)

/-- declared counterpart, one level above `A`: a plain option as in the flat case; a section option is an untitled multi
section without instances whose sub-options are, by `A`, the declared counterparts of every printed instance's options,
or a single section holding its instance -/
def Aligned1P (A : Bool → List Opt → List Opt → Prop) (nc : Bool) (o o0 : Opt) : Prop :=
  (o.ty ≠ .sec ∧ Aligned o o0) ∨
  (o.ty = .sec ∧ o0.name = o.name ∧ SecDecl o0 ∧ o0.vals = [] ∧
     ∀ c, Val.sec c ∈ o.vals → ∀ ci, A nc c.opts (mkSection ci o0 none).opts) ∨
  (o.ty = .sec ∧ o0.name = o.name ∧ SingleDecl o0 ∧
     ∃ c s0, o.vals = [.sec c] ∧ o0.vals = [.sec s0] ∧ A s0.flags.nocase c.opts s0.opts)

/-- the same values, one level above `R`: a plain option holds the printed value sequence; a section option has one
instance per printed instance, in order, each related to it by `R` -/
def SameVals1P (R : List Opt → List Opt → Prop) (r o : Opt) : Prop :=
  (o.ty ≠ .sec ∧ r.vals = o.vals) ∨
  (o.ty = .sec ∧ ∃ ss cs, o.vals = cs.map Val.sec ∧ r.vals = ss.map Val.sec ∧
     All2 (fun s' c => R s'.opts c.opts) ss cs)

theorem tree1_head_steps (orc : Oracle) {P : List Opt → List (Tok × Nat) → Prop} {A : Bool → List Opt → List Opt → Prop}
    {R : List Opt → List Opt → Prop} (hbs : BodySteps orc P A R) (o o0 : Opt) (os pre post : List Opt) (ts : List (Tok × Nat))
    (m : PM) (f : Frame) (rest : List Frame)
    (hts : Tree1ToksP P (o :: os) ts) (hA : Aligned1P A f.cfg.flags.nocase o o0)
    (hrun : m.status = .running) (hfr : m.frames = f :: rest) (hat : AtItem f) (hot : f.opttitle = none)
    (hopts : f.cfg.opts = pre ++ o0 :: post) (hpre : ∀ p ∈ pre, titleEq f.cfg.flags.nocase p.name o.name = false) :
    ∃ ts1 tss f1 res md1, ts = ts1 ++ tss ∧ Tree1ToksP P os tss ∧
      parseToks orc m ts1 = { m with frames := f1 :: rest, maxDepth := md1 } ∧ AtItem f1 ∧ f1.opttitle = none ∧
      f1.level = f.level ∧ f1.back = f.back ∧ f1.cfg.opts = pre ++ res :: post ∧ f1.cfg.flags = f.cfg.flags ∧
      res.name = o.name ∧ SameVals1P R res o := by
  cases hts with
  | plain _ _ ts1 tss hty h1 h2 =>
    rcases hA with ⟨_, hname, hty', hlist, hd⟩ | ⟨hsec, _⟩ | ⟨hsec, _⟩
    · obtain ⟨f1, res, e1, hat1, hlev1, hbk1, hot1, hopts1, hfl1, _, hv1, hi1, _⟩ :=
        opt_step orc m f rest o o0 pre post ts1 hrun hfr hat hopts hpre hname hty' hlist hd h1
      exact ⟨ts1, tss, f1, res, m.maxDepth, rfl, h2, e1, hat1, hot1.trans hot, hlev1, hbk1, hopts1, hfl1,
        (congrArg OptInfo.name hi1).trans hname, Or.inl ⟨hty, hv1⟩⟩
    · exact absurd hsec hty
    · exact absurd hsec hty
  | secNone _ _ _ hty hv h2 =>
    rcases hA with ⟨hns, _⟩ | ⟨_, hname, hd, hv0, _⟩ | ⟨_, _, _, c', _, hvc, _⟩
    · exact absurd hty hns
    · exact ⟨[], ts, f, o0, m.maxDepth, rfl, h2, by rw [← hfr]; rfl, hat, hot, rfl, rfl, hopts, rfl, hname,
        Or.inr ⟨hty, [], [], by simpa using hv, by simpa using hv0, All2.nil⟩⟩
    · rw [hv] at hvc; cases hvc
  | sec _ _ c cs ts1 tss hty hv h1 h2 =>
    rcases hA with ⟨hns, _⟩ | ⟨_, hname, hd, hv0, hinst⟩ | ⟨_, hname, hd, c', s0, hvc, hv0, halc⟩
    · exact absurd hty hns
    · obtain ⟨f1, ss, md1, e1, hat1, hot1, hlev1, hbk1, hopts1, hfl1, hvs⟩ :=
        inst_steps_gen orc hbs cs c ts1 m f rest o0 pre post (hname ▸ h1) hrun hfr hat hot hopts (hname ▸ hpre) hd
          (fun x hx ci => hinst x (hv ▸ List.mem_map.mpr ⟨x, hx, rfl⟩) ci)
      exact ⟨ts1, tss, f1, _, md1, rfl, h2, e1, hat1, hot1, hlev1, hbk1, hopts1, hfl1, hname,
        Or.inr ⟨hty, ss, c :: cs, hv, by show o0.vals ++ ss.map Val.sec = ss.map Val.sec; rw [hv0]; rfl, hvs⟩⟩
    · -- a single section: exactly one printed instance
      rw [hv] at hvc
      simp only [List.map_cons, List.cons.injEq, Val.sec.injEq, List.map_eq_nil_iff] at hvc
      obtain ⟨rfl, rfl⟩ := hvc
      cases h1 with
      | cons _ _ body ts' n1 n2 n3 hb hrest =>
        cases hrest
        obtain ⟨f1, res, s', md1, e1, hat1, hot1, hlev1, hbk1, hopts1, hfl1, hres, hvs⟩ :=
          single_section_item_gen orc hbs m f rest o0 s0 pre post c body n1 n2 n3 hrun hfr hat hot hopts (hname ▸ hpre) hd hv0 hb halc
        exact ⟨_, tss, f1, res, md1, rfl, h2, by rw [← hname, List.append_nil]; exact e1, hat1, hot1, hlev1, hbk1, hopts1, hfl1,
          by rw [hres, ← hname]; rfl, Or.inr ⟨hty, [s'], [c], hv, by rw [hres]; rfl, All2.cons hvs All2.nil⟩⟩

/-- **a whole option list, one level above bodies for which `BodySteps` holds (token level).**  Plain options, untitled
multi sections with any number of instances and single sections, fed to the machine at an item boundary of a frame whose
options are the declared counterparts: the machine ends at an item boundary of that frame, every plain option holds the
printed values, every section option the printed instances, in order, each related to its printed instance by `R`. -/
theorem tree1_steps_gen (orc : Oracle) {P : List Opt → List (Tok × Nat) → Prop} {A : Bool → List Opt → List Opt → Prop}
    {R : List Opt → List Opt → Prop} (hbs : BodySteps orc P A R) (nc : Bool) : ∀ (os os0 : List Opt) (ts : List (Tok × Nat)) (m : PM) (f : Frame) (rest : List Frame) (pre : List Opt),
    Tree1ToksP P os ts → All2 (Aligned1P A nc) os os0 → f.cfg.flags.nocase = nc →
    m.status = .running → m.frames = f :: rest → AtItem f → f.opttitle = none → f.cfg.opts = pre ++ os0 →
    (∀ p ∈ pre, ∀ o ∈ os, titleEq nc p.name o.name = false) →
    List.Pairwise (fun a b => titleEq nc a.name b.name = false) os →
    ∃ f' done md, parseToks orc m ts = { m with frames := f' :: rest, maxDepth := md } ∧ AtItem f' ∧ f'.opttitle = none ∧
      f'.level = f.level ∧ f'.back = f.back ∧ f'.cfg.opts = pre ++ done ∧ f'.cfg.flags = f.cfg.flags ∧
      All2 (SameVals1P R) done os := by
  intro os
  induction os with
  | nil =>
    intro os0 ts m f rest pre hts hal _ hrun hfr hat hot hopts _ _
    cases hts
    cases hal
    exact ⟨f, [], m.maxDepth, by rw [← hfr]; rfl, hat, hot, rfl, rfl, by simpa using hopts, rfl, All2.nil⟩
  | cons o os ih =>
    intro os0 ts m f rest pre hts hal hnc hrun hfr hat hot hopts hpre hpw
    cases hal with
    | cons hA hAs =>
      rename_i o0 os0'
      subst hnc
      obtain ⟨ts1, tss, f1, res, md1, rfl, h2, e1, hat1, hot1, hlev1, hbk1, hopts1, hfl1, hresname, hsv⟩ :=
        tree1_head_steps orc hbs o o0 os pre os0' ts m f rest hts hA hrun hfr hat hot hopts (fun p hp => hpre p hp o (by simp))
      have hn := names_step hresname hpre hpw
      obtain ⟨f2, done, md, e2, hat2, hot2, hlev2, hbk2, hopts2, hfl2, hv2⟩ :=
        ih os0' tss { m with frames := f1 :: rest, maxDepth := md1 } f1 rest (pre ++ [res]) h2 hAs (by rw [hfl1]) hrun rfl hat1 hot1
          (by rw [hopts1]; simp) hn.1 hn.2
      exact ⟨f2, res :: done, md, by rw [parseToks_append, e1, e2], hat2, hot2, hlev2.trans hlev1, hbk2.trans hbk1,
        by rw [hopts2]; simp, hfl2.trans hfl1, All2.cons hsv hv2⟩


def NamesDistinct (nc : Bool) (os : List Opt) : Prop := List.Pairwise (fun a b => titleEq nc a.name b.name = false) os

/-- the tokens a printed configuration of nesting depth at most `d` scans to -/
def TreeToks : Nat → List Opt → List (Tok × Nat) → Prop
  | 0 => FlatToks
  | d + 1 => Tree1ToksP (TreeToks d)

/-- declared counterparts, to depth `d`, names distinct in every option list along the way -/
def AlignedT : Nat → Bool → List Opt → List Opt → Prop
  | 0 => fun nc os os0 => All2 Aligned os os0 ∧ NamesDistinct nc os
  | d + 1 => fun nc os os0 => All2 (Aligned1P (AlignedT d) nc) os os0 ∧ NamesDistinct nc os

/-- the same values, to depth `d`: plain options hold the printed value sequences, section options have the printed
instances, in order, and so on inside every instance -/
def SameValsT : Nat → List Opt → List Opt → Prop
  | 0 => fun done os => All2 (fun r o => r.vals = o.vals) done os
  | d + 1 => fun done os => All2 (SameVals1P (SameValsT d)) done os

/-- **C05 (configurations of any depth, token level).** For every nesting depth `d`: the tokens a printed configuration
scans to - plain options, untitled multi sections with any number of instances, single sections, nested in one another
to depth `d` - fed to the machine at an item boundary of ANY frame (under any enclosing frames) whose options are the
declared counterparts: the machine ends at an item boundary of the same frame, every plain option at every depth holds
exactly the printed values, and every section option at every depth has exactly the printed instances, in order.
Induction on `d`; the step is `tree1_steps_gen` with the induction hypothesis as the body lemma. -/
theorem C05_tree_steps (orc : Oracle) : ∀ d, BodySteps orc (TreeToks d) (AlignedT d) (SameValsT d) := by
  intro d
  induction d with
  | zero => exact bodySteps_flat orc
  | succ d ih =>
    intro os os0 ts m f rest hP hA hrun hfr hat hot hopts
    exact tree1_steps_gen orc ih f.cfg.flags.nocase os os0 ts m f rest [] hP hA.1 rfl hrun hfr hat hot hopts
      (by intro p hp; cases hp) hA.2

/-- non-vacuity at depth 2: `a { b { z = 5 } }` - a multi section inside a multi section - is in the token relation -/
example :
    let inner : Cfg := Cfg.mk { name := [98] } [Opt.mk { name := [122], ty := .int } {} [] [.int 5] none]
    let ob : Opt := Opt.mk { name := [98], ty := .sec } { multi := true } [Decl.mk { name := [122], ty := .int } {} []] [.sec inner] none
    let outer : Cfg := Cfg.mk { name := [97] } [ob]
    let oa : Opt := Opt.mk { name := [97], ty := .sec } { multi := true } [] [.sec outer] none
    TreeToks 2 [oa] ([(.str [97], 0), (.lbrace, 0)] ++ ([(.str [98], 0), (.lbrace, 0)] ++ [(.str [122], 1), (.eq, 0), (.str (printInt 5), 0)] ++ [(.rbrace, 1)] ++ [] ++ []) ++
      [(.rbrace, 1)] ++ [] ++ []) := by
  intro inner ob outer oa
  have hz : FlatToks inner.opts [(.str [122], 1), (.eq, 0), (.str (printInt 5), 0)] :=
    FlatToks.cons (Opt.mk { name := [122], ty := .int } {} [] [.int 5] none) [] _ []
      (OptToks.scalar _ (.int 5) (printInt 5) 1 0 0 rfl rfl rfl (by decide)) FlatToks.nil
  have hb : TreeToks 1 outer.opts ([(.str [98], 0), (.lbrace, 0)] ++ [(.str [122], 1), (.eq, 0), (.str (printInt 5), 0)] ++ [(.rbrace, 1)] ++ [] ++ []) :=
    Tree1ToksP.sec ob [] inner [] _ [] rfl rfl (InstToksP.cons inner [] _ [] 0 0 1 hz InstToksP.nil) Tree1ToksP.nil
  exact Tree1ToksP.sec oa [] outer [] _ [] rfl rfl (InstToksP.cons outer [] _ [] 0 0 1 hb InstToksP.nil) Tree1ToksP.nil

/-- what the printing side provides for an option list in `Q`: printed at any indentation `j`, in front of any `rest` and
after any pending newlines, it scans to tokens in `P` and leaves pending newlines (why pending: `lex_lead`) -/
def LexBody (env : Env) (Q : List Opt → Prop) (P : List Opt → List (Tok × Nat) → Prop) : Prop :=
  ∀ (j : Nat) (os : List Opt) (k : Nat) (rest : Bytes), Q os →
    ∃ ts k', P os ts ∧ LexSteps env (List.replicate k c_nl ++ (printOpts none j os ++ rest)) ts (List.replicate k' c_nl ++ rest)

/-- **one printed section instance scans to its tokens**: name, `{`, the body's tokens, `}` -/
theorem lex_instance_gen (env : Env) {Q : List Opt → Prop} {P : List Opt → List (Tok × Nat) → Prop} (hlb : LexBody env Q P)
    (name : Bytes) (s : Cfg) (j k : Nat) (tail : Bytes) (h0 : ∀ c ∈ name, c ≠ 0) (hpf : s.info.pff = none) (hq : Q s.opts) :
    ∃ body n1 n3, P s.opts body ∧
      LexSteps env (List.replicate k c_nl ++ (indentBytes j ++ printName name ++ [c_sp, c_lbr, c_nl] ++ printCfg none (j + 1) s ++
                      indentBytes j ++ [c_rbr, c_nl] ++ tail))
        ([(.str name, n1), (.lbrace, 0)] ++ body ++ [(.rbrace, n3)]) (List.replicate 1 c_nl ++ tail) := by
  obtain ⟨body, k', hb, sb⟩ := hlb (j + 1) s.opts 1 (indentBytes j ++ c_rbr :: c_nl :: tail) hq
  obtain ⟨n1, e1⟩ := C05_name env name (c_lbr :: c_nl :: (printOpts none (j + 1) s.opts ++ (indentBytes j ++ c_rbr :: c_nl :: tail))) c_sp k h0 (Or.inl rfl)
  refine ⟨body, n1, k', hb, ?_⟩
  rw [C19_inherit s none (j + 1) hpf]
  simp only [indentBytes, List.append_assoc, List.cons_append, List.nil_append]
  refine LexSteps.cons _ (.str name) n1 _ _ _ (by rw [lex_lead, lex_spaces]; exact e1) rfl ?_
  refine LexSteps.cons _ .lbrace 0 _ _ _ rfl rfl ?_
  refine LexSteps.append sb (LexSteps.one (t := .rbrace) (nl := k') ?_ rfl)
  rw [lex_lead, indentBytes, lex_spaces]
  rfl

/-- **all printed instances of an untitled section option scan to their tokens** -/
theorem lex_insts_gen (env : Env) {Q : List Opt → Prop} {P : List Opt → List (Tok × Nat) → Prop} (hlb : LexBody env Q P) (o : Opt) (j : Nat) (ht : o.flags.title = false) (h0 : ∀ c ∈ o.name, c ≠ 0) :
    ∀ (cs : List Cfg) (k : Nat) (tail : Bytes), (∀ c ∈ cs, c.info.pff = none ∧ Q c.opts) →
    ∃ ts k', InstToksP P o.name cs ts ∧
      LexSteps env (List.replicate k c_nl ++ (printVals o none j (cs.map Val.sec) ++ tail)) ts (List.replicate k' c_nl ++ tail) := by
  intro cs
  induction cs with
  | nil => intro k tail _; exact ⟨[], k, InstToksP.nil, LexSteps.nil _⟩
  | cons c cs ih =>
    intro k tail hall
    obtain ⟨ts2, k', h2, s2⟩ := ih 1 tail (fun x hx => hall x (by simp [hx]))
    obtain ⟨body, n1, n3, hb, s1⟩ := lex_instance_gen env hlb o.name c j k (printVals o none j (cs.map Val.sec) ++ tail) h0 (hall c (by simp)).1 (hall c (by simp)).2
    refine ⟨[(.str o.name, n1), (.lbrace, 0)] ++ body ++ [(.rbrace, n3)] ++ ts2, k', InstToksP.cons c cs body ts2 n1 0 n3 hb h2, ?_⟩
    rw [List.map_cons, printVals, ht, if_neg Bool.false_ne_true, List.append_nil, List.append_assoc]
    exact LexSteps.append s1 s2

structure PrintableSecP (Q : List Opt → Prop) (o : Opt) : Prop where
  ty : o.ty = .sec
  notitle : o.flags.title = false
  noComment : o.comment = none
  name0 : ∀ c ∈ o.name, c ≠ 0
  insts : ∃ cs : List Cfg, o.vals = cs.map Val.sec ∧ ∀ c ∈ cs, c.info.pff = none ∧ Q c.opts

theorem print_sec_indent {Q : List Opt → Prop} (o : Opt) (j : Nat) (hp : PrintableSecP Q o) : printOpt none j o = printVals o none j o.vals := by
  obtain ⟨info, fl, subs, vals, cm⟩ := o
  have h1 := hp.ty; have h2 := hp.noComment
  simp only [Opt.ty, Opt.info, Opt.comment] at h1 h2
  subst h2
  simp [printOpt, h1, Opt.vals]

/-- **an option list whose sections have bodies in `Q` scans, at any indentation, to the token relation over `P`** -/
theorem lex_tree1_gen (env : Env) {Q : List Opt → Prop} {P : List Opt → List (Tok × Nat) → Prop} (hlb : LexBody env Q P) :
    LexBody env (fun os => ∀ o ∈ os, (o.ty ≠ .sec ∧ Printable o) ∨ PrintableSecP Q o) (Tree1ToksP P) := by
  intro j os
  induction os with
  | nil => intro k rest _; exact ⟨[], k, Tree1ToksP.nil, LexSteps.nil _⟩
  | cons o os ih =>
    intro k rest hall
    have ih := fun k => ih k rest fun x hx => hall x (List.mem_cons_of_mem _ hx)
    rw [printOpts_cons, List.append_assoc]
    rcases hall o (by simp) with ⟨hns, hp⟩ | hp
    · obtain ⟨ts1, h1, s1⟩ := lex_opt_indent env o j k (printOpts none j os ++ rest) hp
      obtain ⟨ts2, k', h2, s2⟩ := ih 1
      exact ⟨ts1 ++ ts2, k', Tree1ToksP.plain o os ts1 ts2 hns h1 h2, LexSteps.append s1 s2⟩
    · obtain ⟨cs, hv, hcs⟩ := hp.insts
      rw [print_sec_indent o j hp, hv]
      cases cs with
      | nil =>
        obtain ⟨ts2, k', h2, s2⟩ := ih k
        exact ⟨ts2, k', Tree1ToksP.secNone o os ts2 hp.ty hv h2, s2⟩
      | cons c cs =>
        obtain ⟨ts1, k1, h1, s1⟩ := lex_insts_gen env hlb o j hp.notitle hp.name0 (c :: cs) k (printOpts none j os ++ rest) hcs
        obtain ⟨ts2, k', h2, s2⟩ := ih k1
        exact ⟨ts1 ++ ts2, k', Tree1ToksP.sec o os c cs ts1 ts2 hp.ty hv h1 h2, LexSteps.append s1 s2⟩

/-- what can be printed and scanned back, to nesting depth `d` -/
def PrintableT : Nat → List Opt → Prop
  | 0 => fun os => ∀ o ∈ os, Printable o
  | d + 1 => fun os => ∀ o ∈ os, (o.ty ≠ .sec ∧ Printable o) ∨ PrintableSecP (PrintableT d) o

/-- **the printed text of a configuration of any depth scans, at any indentation, to its tokens** -/
theorem lex_tree (env : Env) : ∀ d, LexBody env (PrintableT d) (TreeToks d) := by
  intro d
  induction d with
  | zero => exact lex_opts_indent env
  | succ d ih => exact lex_tree1_gen env ih

theorem instToksP_no_rparen {P : List Opt → List (Tok × Nat) → Prop} (hP : ∀ os ts, P os ts → ∀ t ∈ ts, t.1 ≠ .rparen)
    {name : Bytes} {cs : List Cfg} {ts : List (Tok × Nat)} (h : InstToksP P name cs ts) : ∀ t ∈ ts, t.1 ≠ .rparen := by
  induction h with
  | nil => exact List.forall_mem_nil _
  | cons c cs body ts' n1 n2 n3 hb _ ih =>
    exact List.forall_mem_append.2 ⟨List.forall_mem_append.2 ⟨no_rparen_cons nofun (no_rparen_cons nofun (hP _ _ hb)),
      no_rparen_cons nofun (List.forall_mem_nil _)⟩, ih⟩

theorem tree1ToksP_no_rparen {P : List Opt → List (Tok × Nat) → Prop} (hP : ∀ os ts, P os ts → ∀ t ∈ ts, t.1 ≠ .rparen)
    {os : List Opt} {ts : List (Tok × Nat)} (h : Tree1ToksP P os ts) : ∀ t ∈ ts, t.1 ≠ .rparen := by
  induction h with
  | nil => exact List.forall_mem_nil _
  | plain o os ts1 tss _ h1 _ ih => exact List.forall_mem_append.2 ⟨optToks_no_rparen h1, ih⟩
  | secNone o os tss _ _ _ ih => exact ih
  | sec o os c cs ts1 tss _ _ h1 _ ih => exact List.forall_mem_append.2 ⟨instToksP_no_rparen hP h1, ih⟩

theorem treeToks_no_rparen : ∀ d os ts, TreeToks d os ts → ∀ t ∈ ts, t.1 ≠ .rparen := by
  intro d
  induction d with
  | zero => exact fun os ts h => flatToks_no_rparen h
  | succ d ih => exact fun os ts h => tree1ToksP_no_rparen ih h

/-- **C05 (configurations of any depth, byte level).** For every nesting depth `d`: print a configuration `c` built from
plain integer / boolean / string options, untitled multi sections with any number of instances and single sections,
nested in one another to depth `d` - no callbacks, annotations or print filters - and parse the printed text with
`cfg_parse_buf` into ANY context `c0` with the same declarations at every level (multi sections still empty, single
sections holding their instance, names distinct under the case rule): the parse is accepted, and every plain option at
every depth holds exactly the printed values, every section option at every depth exactly the printed instances, in
order.  Bytes, indentation, scanner, parse loop, token machine with its frame stack: all inside the statement. -/
theorem C05_tree_roundtrip (orc : Oracle) (pe : PEnv) (d : Nat) (c c0 : Cfg)
    (hpff : c.info.pff = none) (hpr : PrintableT d c.opts)
    (hal : AlignedT d c0.flags.nocase c.opts c0.opts) :
    (parseBuf orc pe c0 (cfgPrint c)).rc = 0 ∧
    SameValsT d (parseBuf orc pe c0 (cfgPrint c)).cfg.opts c.opts := by
  have htext := cfgPrint_nofilter c hpff
  obtain ⟨ts, k', hft, hlex⟩ := lex_tree pe.env d 0 c.opts 0 [] hpr
  simp only [List.replicate_zero, List.nil_append, List.append_nil] at hlex
  let c1 := (c0.setFilename (some bufName)).setLine 1
  have hopts1 : c1.opts = c0.opts := by cases c0; rfl
  have hfl1 : c1.flags = c0.flags := by cases c0; rfl
  let f0 : Frame := { cfg := c1 }
  let m0 : PM := startPM c1 (cfgPrint c) 0
  obtain ⟨f', done, md, e1, hat', _, hlev', _, hopts', _, hvals⟩ :=
    C05_tree_steps orc d c.opts c0.opts ts m0 f0 [] hft (by show AlignedT d c1.flags.nocase _ _; rw [hfl1]; exact hal) rfl rfl (.fresh c1 0 none) rfl hopts1
  rw [← htext] at hlex
  obtain ⟨hrc, ho, _⟩ := accept_of_steps orc pe c0 (cfgPrint c) ts k' f' md hlex (treeToks_no_rparen d _ _ hft) e1 hat' hlev'
  refine ⟨hrc, ?_⟩
  rw [ho, hopts']
  exact hvals

/-- non-vacuity: `i=7` and one instance `n { z=5 }`, printed and parsed into a context declared alike, meets the premises
of `C05_tree_roundtrip` at depth 1 -/
example :
    let inst : Cfg := Cfg.mk { name := [110] } [Opt.mk { name := [122], ty := .int } {} [] [.int 5] none]
    let c : Cfg := Cfg.mk { name := [114] }
      [Opt.mk { name := [105], ty := .int } {} [] [.int 7] none,
       Opt.mk { name := [110], ty := .sec } { multi := true } [Decl.mk { name := [122], ty := .int } {} []] [.sec inst] none]
    let c0 : Cfg := Cfg.mk { name := [114] }
      [Opt.mk { name := [105], ty := .int } {} [] [.int 1] none,
       Opt.mk { name := [110], ty := .sec } { multi := true } [Decl.mk { name := [122], ty := .int } {} []] [] none]
    c.info.pff = none ∧ PrintableT 1 c.opts ∧ AlignedT 1 c0.flags.nocase c.opts c0.opts := by
  intro inst c c0
  have hz : Printable (Opt.mk { name := [122], ty := .int } {} [] [.int 5] none) :=
    ⟨Or.inl rfl, rfl, rfl, by decide, by decide, fun _ => ⟨_, rfl⟩⟩
  have hi : Printable (Opt.mk { name := [105], ty := .int } {} [] [.int 7] none) :=
    ⟨Or.inl rfl, rfl, rfl, by decide, by decide, fun _ => ⟨_, rfl⟩⟩
  refine ⟨rfl, ?_, ?_, by unfold NamesDistinct; decide⟩
  · intro o ho
    simp only [c, Cfg.opts, List.mem_cons, List.not_mem_nil, or_false] at ho
    rcases ho with rfl | rfl
    · exact Or.inl ⟨by decide, hi⟩
    · exact Or.inr ⟨rfl, rfl, rfl, by decide, [inst], rfl, by
        intro x hx; simp at hx; subst hx
        exact ⟨rfl, by intro o ho; simp [inst, Cfg.opts] at ho; subst ho; exact hz⟩⟩
  · refine All2.cons (Or.inl ⟨by decide, rfl, rfl, rfl, ⟨Or.inl rfl, rfl, rfl, rfl, rfl, ⟨by decide, by decide⟩, rfl⟩⟩)
      (All2.cons (Or.inr (Or.inl ⟨rfl, rfl, ?_, rfl, ?_⟩)) All2.nil)
    · exact ⟨⟨rfl, rfl⟩, rfl, rfl, rfl, rfl, ⟨by decide, by decide⟩⟩
    · intro x hx ci
      simp [Opt.vals] at hx
      subst hx
      refine ⟨?_, by unfold NamesDistinct; decide⟩
      have hn : ∀ si, (mkOpt si (Decl.mk { name := [122], ty := .int } {} [])).name = [122] := fun _ => rfl
      refine All2.cons ⟨rfl, rfl, rfl, ⟨Or.inl rfl, rfl, rfl, rfl, rfl, ?_, rfl⟩⟩ All2.nil
      rw [hn]; exact ⟨by decide, by decide⟩

end Confuse
