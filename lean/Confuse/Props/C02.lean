import Confuse.Lemmas.Reads
import Confuse.Props.C12
/-!
# C02 — no input text can corrupt memory, hang or kill the host process (the logic part)

What a model can carry: the scanner always makes progress (so scanning any input terminates with an
end or an error token), the scratch buffer's index never passes its capacity, the token machine
adds at most one frame per token and none at all inside unknown text, and every outcome is one of
the three documented return codes.  Memory safety of the compiled C is runtime behaviour: see the
tie (ASan/UBSan, captured stdout, time-outs).
-/
namespace Confuse

theorem dqRun_rest (env : Env) (inp : Bytes) : ∀ s : DqSt, (dqRun env s inp).rest.length ≤ inp.length := by
  intro s
  by_cases hm : dqModeOk s.mode inp = true
  · exact (dqRun_reads env inp s.mode s.acc hm).1.rest_le s.nl
  · -- only after `$` can the mode be at odds with the input: that step reads one byte whatever it is
    obtain ⟨m, acc, nl⟩ := s
    cases m with
    | envOpen =>
      cases inp with
      | nil => simp [dqRun, dqEof]
      | cons c cs => exact Nat.le_succ_of_le ((dqRun_reads env cs (.env []) acc rfl).1.rest_le nl)
    | _ => exact absurd rfl hm

theorem sqRun_rest (inp : Bytes) : ∀ (m : SqMode) (acc : Bytes) (nl : Nat), (sqRun m acc nl inp).rest.length ≤ inp.length :=
  fun m acc nl => (sqRun_reads inp m acc).1.rest_le nl

theorem commentRun_rest (inp : Bytes) : ∀ (acc : Bytes) (nl : Nat), (commentRun acc nl inp).rest.length ≤ inp.length :=
  fun acc nl => (commentRun_reads inp acc).rest_le nl

/-- **C02 (progress).** Whatever the bytes are, one call of the scanner on a non-empty input consumes
at least one byte: the rest it leaves is strictly shorter.  So a loop that keeps calling the scanner
reaches the end of any input (or an error token) after at most `length` calls. -/
theorem lex_progress (env : Env) (cs : Bytes) : ∀ (c nl : Nat), (lexInitial env nl (c :: cs)).rest.length ≤ cs.length :=
  fun c nl => (lexInitial_reads_cons env c cs (lexInitial_reads env cs)).rest_le nl

/-- scanning to the end: with `length + 1` calls the token list of any buffer ends in `eof` or an error -/
theorem lexAll_complete (env : Env) : ∀ (fuel : Nat) (inp : Bytes), inp.length < fuel →
    ∃ pre t n, lexAll env fuel inp = pre ++ [(t, n)] ∧ (t = .eof ∨ ∃ e, t = .err e) := by
  intro fuel
  induction fuel with
  | zero => intro inp h; omega
  | succ k ih =>
    intro inp h
    cases inp with
    | nil => exact ⟨[], .eof, 0, rfl, .inl rfl⟩
    | cons c cs =>
      -- what the remaining calls give does not depend on the kind of the first token
      obtain ⟨pre, t, n, h1, h2⟩ := ih (lexInitial env 0 (c :: cs)).rest (by
        have := lex_progress env cs c 0
        simp only [List.length_cons] at h
        omega)
      simp only [lexAll]
      cases (lexInitial env 0 (c :: cs)).tok with
      | eof => exact ⟨[], .eof, _, rfl, .inl rfl⟩
      | err e => exact ⟨[], .err e, _, rfl, .inr ⟨e, rfl⟩⟩
      | _ => exact ⟨_ :: pre, t, n, congrArg (List.cons _) h1, h2⟩

/-- the three numbers `qputc` (lexer.l) maintains: write index, capacity (`qstring_len`), bytes allocated -/
structure QBuf where
  index : Nat
  len : Nat
  alloc : Nat          -- size passed to realloc: len + 1
deriving Repr

def QBuf.empty : QBuf := ⟨0, 0, 0⟩

/-- `qputc`: grow by 32 when full, write at `index`, advance -/
def QBuf.putc (q : QBuf) : QBuf × Nat :=
  let q1 := if q.index ≥ q.len then { q with len := q.len + 32, alloc := q.len + 32 + 1 } else q
  ({ q1 with index := q1.index + 1 }, q1.index)

/-- `qstring_index = 0` (start of a string or comment) -/
def QBuf.rewind (q : QBuf) : QBuf := { q with index := 0 }

def QBuf.Inv (q : QBuf) : Prop := q.index ≤ q.len ∧ (q.len = 0 ∨ q.alloc = q.len + 1)

/-- **C02 (scratch buffer).** Every write lands inside the allocation, the terminating NUL that
`trim_whitespace` and the parser rely on (`str[index]`) is inside it too, and the invariant
`index ≤ capacity` is kept by every operation, however long the token is. -/
theorem C02_scratch (q : QBuf) (h : q.Inv) :
    (q.putc).1.Inv ∧ (q.putc).2 < (q.putc).1.alloc ∧ (q.putc).1.index < (q.putc).1.alloc ∧ q.rewind.Inv := by
  obtain ⟨i, l, a⟩ := q
  obtain ⟨h1, h2⟩ := h
  simp only at h1 h2
  by_cases hf : i ≥ l
  · simp only [QBuf.Inv, QBuf.putc, QBuf.rewind, hf, if_true]
    exact ⟨⟨by omega, Or.inr trivial⟩, by omega, by omega, Nat.zero_le _, h2⟩
  · simp only [QBuf.Inv, QBuf.putc, QBuf.rewind, hf, if_false]
    have hl : l ≠ 0 := by omega
    have ha : a = l + 1 := by rcases h2 with h | h; exact absurd h hl; exact h
    refine ⟨⟨?_, ?_⟩, ?_, ?_, ?_, h2⟩ <;> omega

def QBuf.putN : Nat → QBuf → QBuf
  | 0, q => q
  | n + 1, q => QBuf.putN n (q.putc).1

theorem C02_scratch_run (n : Nat) : ∀ q : QBuf, q.Inv → (QBuf.putN n q).Inv := by
  induction n with
  | zero => intro q h; exact h
  | succ k ih => intro q h; exact ih _ (C02_scratch q h).1

/-- **C02 (outcome).** Every parse ends with one of the documented return codes. -/
theorem C02_outcome (orc : Oracle) (pe : PEnv) (c : Cfg) (text name : Bytes) :
    ((parseFp orc pe c text).rc = 0 ∨ (parseFp orc pe c text).rc = 1) ∧
    ((parseFile orc pe c name).rc = 0 ∨ (parseFile orc pe c name).rc = 1 ∨ (parseFile orc pe c name).rc = -1) := by
  have fp : ∀ c t, (parseFp orc pe c t).rc = 0 ∨ (parseFp orc pe c t).rc = 1 := fun c t => by
    simp only [parseFp, finishParse]; split <;> simp
  refine ⟨fp c text, ?_⟩
  simp only [parseFile]
  cases resolveFile pe name with
  | none => exact .inr (.inr rfl)
  | some fn =>
    simp only []
    cases openFile pe fn with
    | none => exact .inr (.inr rfl)
    | some content => exact (fp _ content).imp_right .inl

/-- **C02 (no stack growth in unknown text).** While unknown content is being skipped the number of
frames — the C recursion depth — does not change, however deeply it nests (from C12). -/
theorem C02_unknown_no_recursion (orc : Oracle) (ts : List (Tok × Nat)) (m : PM) (f : Frame) (rest : List Frame) (d d' : Nat)
    (hrun : m.status = .running) (hfr : m.frames = f :: rest) (hs : f.state = .s12) (hd : f.depth = d)
    (hin : ∀ t ∈ ts, t.1.inner = true) (hda : depthAfter d ts = some d') :
    (parseToks orc m ts).frames.length = m.frames.length := by
  rw [C12_skip_body orc ts m f rest d d' hrun hfr hs hd hin hda, hfr]
  simp

end Confuse
