import Confuse.Lemmas.Parser
import Confuse.Lemmas.Reads
/-!
# C06 — rejected input is reported with the right file and line

`lex_line_count`: over EVERY input (since fix F39 also inside substitutions) every scanner path — code,
`#`/`//`/`/* */` comments, single- and double-quoted multi-line strings, continuations, error exits — increments the
line counter exactly once per newline it consumes.  `pstep_line` (Lemmas/Parser): the token machine adds exactly the scanner's count to the
current context and hands the line across section entry and exit; here, what that means for the positions reported.
-/
namespace Confuse

/-- **C06 (every newline of a double-quoted string is counted once)**: plain newlines, continuations, and
(since fix F39) the newlines inside a `${…}` substitution - for EVERY input -/
theorem dqRun_line (env : Env) (inp : Bytes) : ∀ (s : DqSt), dqModeOk s.mode inp = true →
    (dqRun env s inp).nl + countNl (dqRun env s inp).rest = s.nl + countNl inp :=
  fun s hm => (dqRun_reads env inp s.mode s.acc hm).1.line s.nl

theorem sqRun_line (inp : Bytes) : ∀ (mode : SqMode) (acc : Bytes) (nl : Nat),
    (sqRun mode acc nl inp).nl + countNl (sqRun mode acc nl inp).rest = nl + countNl inp :=
  fun mode acc nl => (sqRun_reads inp mode acc).1.line nl

theorem commentRun_line (inp : Bytes) : ∀ (acc : Bytes) (nl : Nat),
    (commentRun acc nl inp).nl + countNl (commentRun acc nl inp).rest = nl + countNl inp :=
  fun acc nl => (commentRun_reads inp acc).line nl

theorem lineComment_line (marker nl : Nat) (inp : Bytes) :
    (lineComment marker nl inp).nl + countNl (lineComment marker nl inp).rest = nl + countNl inp :=
  (Reads.run (f := (lineComment marker · inp)) (· != c_nl) (by decide) (hd := []) (by simp) fun _ => rfl).line nl

/-- **C06 (every newline counted once).** For EVERY input: newlines in code, comments, multi-line strings,
continuations and - since fix F39 - inside `${…}` substitutions are each counted exactly once. -/
theorem lex_line_count (env : Env) (inp : Bytes) : ∀ (nl : Nat),
    (lexInitial env nl inp).nl + countNl (lexInitial env nl inp).rest = nl + countNl inp :=
  fun nl => (lexInitial_reads env inp).line nl

/-- **C06 / C13 (fix F38).** When `}` closes a section and parsing goes on, the enclosing context continues on the
section's line and - when the section has a file name - under that name: a section may be closed in another source
than it was opened in (an included file that closes it, or one that ends inside it), and what follows must be
reported in the source it is in.  (Before the fix only the line was handed up, so after `include("f")` with `f` =
`sec {` the rest of the includer was reported under the name of `f`, and after an `f` that closed the includer's
section the rest of `f` was reported under the includer's name.) -/
theorem C06_close_position (orc : Oracle) (m : PM) (f p : Frame) (rest : List Frame) :
    (step_s0 orc m f (p :: rest) .rbrace).status = .running →
    ∃ q, (step_s0 orc m f (p :: rest) .rbrace).frames = q :: rest ∧ q.cfg.line = f.cfg.line ∧
      (∀ fn, f.cfg.info.filename = some fn → q.cfg.info.filename = some fn) := by
  unfold step_s0
  have hi := handleDeprecated_info m f
  generalize handleDeprecated m f = pr at hi
  obtain ⟨m1, f1⟩ := pr
  dsimp only at hi ⊢
  split
  · intro h; simp at h
  · split
    · intro h; simp at h
    · intro _
      -- the parent goes on at `afterSection`: on the child's line, and under the child's file name if it has one
      refine ⟨_, rfl, (congrArg CfgInfo.line hi :), fun fn hfn => ?_⟩
      show (Cfg.afterSection _ f1.cfg).info.filename = some fn
      rw [Cfg.afterSection, hi, hfn]
      rfl

theorem addLine_diag (f : Frame) (nl : Nat) (c : DiagCls) : (f.addLine nl).diag c = ⟨f.cfg.info.filename, f.cfg.line + nl, c⟩ := rfl

/-- **C06 (a scanner error is reported where it happened).** An error token makes the parse fail
and delivers exactly one diagnostic carrying the current file name and the line reached. -/
theorem pstep_err_reported (orc : Oracle) (m : PM) (f : Frame) (rest : List Frame) (e : LexErr) (nl : Nat)
    (hrun : m.status = .running) (hfr : m.frames = f :: rest) :
    (pstep orc m (.err e) nl).status = .rejected ∧
    ∃ cls, (pstep orc m (.err e) nl).diags = ⟨f.cfg.info.filename, f.cfg.line + nl, cls⟩ :: m.diags := by
  rw [pstep_err orc m f rest e nl hrun hfr]
  exact ⟨rejectWith_status _ _ _ _, _, by rw [rejectWith_diags, addLine_diag]⟩

/-- **C06 (premature end).** End of input anywhere but between items of the outermost level fails
the parse with a diagnostic on the last line. -/
theorem pstep_eof_reported (orc : Oracle) (m : PM) (f : Frame) (rest : List Frame) (nl : Nat)
    (hrun : m.status = .running) (hfr : m.frames = f :: rest) (hbad : f.state ≠ .s0 ∨ f.level > 0) :
    (pstep orc m .eof nl).status = .rejected ∧
    (pstep orc m .eof nl).diags = ⟨f.cfg.info.filename, f.cfg.line + nl, .prematureEof⟩ :: m.diags := by
  have : (f.state != .s0 || decide (f.level > 0)) = true := by
    rcases hbad with h | h <;> simp [h]
  rw [pstep_eof orc m f rest nl hrun hfr, if_pos this]
  exact ⟨rejectWith_status _ _ _ _, by rw [rejectWith_diags, addLine_diag]⟩

end Confuse
