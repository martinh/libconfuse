import Confuse.Model.Api
import Confuse.Lemmas.Store
import Confuse.Lemmas.Parser
/-!
# C14 — user callbacks see exactly the parsed items, and their verdict binds

All statements are for an arbitrary oracle (callback behaviour).
-/
namespace Confuse

/-- **C14 (value-parsing callback).** An option with a parse callback has the callback invoked once,
with exactly the decoded token text; the stored value is the one it produced; a failure result
refuses the value. -/
theorem C14_parse_callback (orc : Oracle) (k : Nat) (o : Opt) (tok : Bytes) (hcb : o.info.parseCb = true) (hty : o.ty = .int) :
    (∀ n, orc k (.parse o.name (some tok)) = .int n →
      setoptConvert orc k o (some tok) = .ok (.int n, [.parse o.name (some tok)])) ∧
    (orc k (.parse o.name (some tok)) = .fail →
      setoptConvert orc k o (some tok) = .error ([.callback], [.parse o.name (some tok)])) := by
  rw [setoptConvert_int_cb orc k o _ hty hcb]
  exact ⟨fun n h => by rw [h], fun h => by rw [h]⟩

/-- the same for strings: the callback's string is what gets stored -/
theorem C14_parse_callback_str (orc : Oracle) (k : Nat) (o : Opt) (tok s : Bytes) (hcb : o.info.parseCb = true) (hty : o.ty = .str)
    (h : orc k (.parse o.name (some tok)) = .str (some s)) :
    setoptConvert orc k o (some tok) = .ok (.str s, [.parse o.name (some tok)]) := by
  simp [setoptConvert, hty, hcb, h]

/-- **C14 (stored value is the callback's).** -/
theorem C14_stored_value (orc : Oracle) (k : Nat) (ci : CfgInfo) (o : Opt) (tok : Bytes) (n : Int)
    (hcb : o.info.parseCb = true) (hty : o.ty = .int) (hr : o.flags.reset = true)
    (h : orc k (.parse o.name (some tok)) = .int n) :
    (setopt orc k ci o (some tok)).opt.vals = [.int n] ∧
    (setopt orc k ci o (some tok)).calls = [.parse o.name (some tok)] ++ freeEvOpt o := by
  rw [setopt_scalar orc k ci o _ _ _ (.int n) ((C14_parse_callback orc k o tok hcb hty).1 n h) rfl]
  simp [Opt.base_of_reset hr, hr]

/-- **C14 (validation after every stored value, seeing it).** When a value has been stored for an
option with a validation callback, the very next callback invocation is that callback, its snapshot
of the option contains the value just stored, and a non-zero verdict fails the parse right there. -/
theorem C14_valid_after_store (orc : Oracle) (m : PM) (f : Frame) (rest : List Frame) (r : OptRef) (o : Opt) (v : Bytes) (next : PState) (i : Nat)
    (hopt : f.opt = some r) (hget : f.cfg.getOpt r = some o)
    (hok : (setopt orc m.k f.cfg.info o (some v)).res = some i)
    (hcb : o.info.validCb = true) :
    let out := setopt orc m.k f.cfg.info o (some v)
    let call := CbCall.valid o.name (out.opt.vals.map Val.snap)
    let kv := m.k + out.calls.length
    (orc kv call = .fail → (storeValue orc m f rest v next).status = .rejected) ∧
    (orc kv call ≠ .fail → (storeValue orc m f rest v next).trace = call :: (out.calls.reverse ++ m.trace)) := by
  intro out call kv
  have hinfo : out.opt.info = o.info := (setopt_sameDecl orc m.k f.cfg.info o (some v)).1
  have hset : setopt orc m.k f.cfg.info o (some v) = ⟨out.opt, some i, out.diags, out.calls⟩ := by rw [← hok]
  have hcall : CbCall.valid out.opt.name (out.opt.vals.map Val.snap) = call := congrArg (CbCall.valid ·.name _) hinfo
  refine ⟨fun hf => (storeValue_vetoed orc m f rest v next r o _ i _ _ hopt hget hset (hinfo ▸ hcb) (hcall ▸ hf)).1, fun hf => ?_⟩
  rw [storeValue_go orc m f rest v next r o _ i _ _ hopt hget hset (fun _ => hcall ▸ hf), hinfo, hcb, hcall]
  rfl

/-- **C14 (function options).** The callback receives exactly the collected arguments, in order. -/
theorem C14_func_args (orc : Oracle) (m : PM) (f : Frame) (rest : List Frame) (r : OptRef) (o : Opt)
    (hopt : f.opt = some r) (hget : f.cfg.getOpt r = some o) (hfn : o.info.func = .user) :
    (orc m.k (.func o.name f.funcargs) = .fail → (callFunction orc m f rest).status = .rejected) ∧
    (callFunction orc m f rest).trace = .func o.name f.funcargs :: m.trace := by
  unfold callFunction
  simp only [hopt, hget, hfn]
  by_cases h : orc m.k (.func o.name f.funcargs) = .fail
  · rw [if_pos h]; exact ⟨fun _ => rfl, rfl⟩
  · rw [if_neg h]; exact ⟨fun h' => absurd h' h, rfl⟩

/-- **C14 (the verdict binds: nothing after the failure is applied).** Once the parse has been
rejected no further token changes anything. -/
theorem C14_failure_stops (orc : Oracle) (m : PM) (ts : List (Tok × Nat)) (h : m.status ≠ .running) :
    parseToks orc m ts = m :=
  parseToks_stopped orc m ts h

/-- **C14 (pre-set validation).** A by-name setter consults the callback first; a veto leaves the
configuration untouched, a rewritten number is what gets stored. -/
theorem C14_preset (orc : Oracle) (k : Nat) (c : Cfg) (path : Bytes) (n : Int) (i : Nat) (r : OptRef) (o : Opt)
    (hr : (getoptPath c path).ref = some r) (ho : c.getOpt r = some o) (hcb : o.info.valid2Cb = true) :
    (orc k (.valid2int o.name n) = .fail → (apiSetn orc k c path .int (.int n) i true).cfg = c ∧ (apiSetn orc k c path .int (.int n) i true).rc = -1) ∧
    (∀ n', orc k (.valid2int o.name n) = .int n' →
        (apiSetn orc k c path .int (.int n) i true).cfg = (modOpt c r (optSetn .int (.int n') i) (getoptPath c path).diags).cfg) ∧
    (apiSetn orc k c path .int (.int n) i true).calls.head? = some (.valid2int o.name n) := by
  unfold apiSetn
  simp only [hr, ho, hcb]
  refine ⟨?_, ?_, ?_⟩
  · intro h; simp [h]
  · intro n' h; simp [h]
  · cases orc k (.valid2int o.name n) <;> simp

end Confuse
