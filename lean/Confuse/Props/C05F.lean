import Confuse.Props.C01A
import Confuse.Props.C11
import Confuse.Props.C05
import Confuse.Lemmas.Resolve
/-!
# C05 — the round trip of a flat configuration, token level

The tokens a printed flat configuration scans to (any line layout), fed to the token machine from an item boundary of
a context with the same declarations, leave every option holding exactly the printed configuration's values.
-/
namespace Confuse

/-- the text of a value as the printer writes it and the scanner hands it back (strings: decoded) -/
def valText : Val → Option Bytes
  | .int n => some (printInt n)
  | .bool b => some (if b then bTrue else bFalse)
  | .str (some s) => some s
  | _ => none

/-- a cell the flat round trip covers: an integer in range, a boolean, a non-NULL string without NUL bytes -/
def goodCell (ty : Ty) : Val → Bool
  | .int n => ty == .int && decide (longMin ≤ n) && decide (n ≤ longMax)
  | .bool _ => ty == .bool
  | .str (some s) => ty == .str && s.all (· != 0)      -- C strings end at a NUL
  | _ => false

/-- the three kinds of cell the round trip covers -/
theorem goodCell_cases {ty : Ty} {v : Val} (h : goodCell ty v = true) :
    (∃ n, v = .int n ∧ ty = .int ∧ longMin ≤ n ∧ n ≤ longMax) ∨ (∃ b, v = .bool b ∧ ty = .bool) ∨
    (∃ s, v = .str (some s) ∧ ty = .str ∧ ∀ c ∈ s, c ≠ 0) := by
  cases v with
  | int n =>
    simp only [goodCell, Bool.and_eq_true, beq_iff_eq, decide_eq_true_eq] at h
    exact .inl ⟨n, rfl, h.1.1, h.1.2, h.2⟩
  | bool b => exact .inr (.inl ⟨b, rfl, by simpa [goodCell] using h⟩)
  | str s =>
    cases s with
    | none => simp [goodCell] at h
    | some s =>
      simp only [goodCell, Bool.and_eq_true, beq_iff_eq, List.all_eq_true, bne_iff_ne, ne_eq] at h
      exact .inr (.inr ⟨s, rfl, h.1, h.2⟩)
  | flt b => simp [goodCell] at h
  | ptr p => simp [goodCell] at h
  | sec c => simp [goodCell] at h

theorem convTok_valText (ty : Ty) (v : Val) (h : goodCell ty v = true) : ∃ t, valText v = some t ∧ convTok ty t = some v := by
  rcases goodCell_cases h with ⟨n, rfl, rfl, h1, h2⟩ | ⟨b, rfl, rfl⟩ | ⟨s, rfl, rfl, _⟩
  · exact ⟨_, rfl, by simp [convTok, C05_int n h1 h2]⟩
  · exact ⟨_, rfl, by simp [convTok, C05_bool b]⟩
  · exact ⟨_, rfl, rfl⟩

theorem getoptPath_top (c : Cfg) (name : Bytes) (pre : List Opt) (o0 : Opt) (post : List Opt)
    (hn : plainName name) (hopts : c.opts = pre ++ o0 :: post)
    (hpre : ∀ p ∈ pre, titleEq c.flags.nocase p.name name = false) (hname : titleEq c.flags.nocase o0.name name = true) :
    (getoptPath c name).ref = some ⟨[], pre.length⟩ ∧ (getoptPath c name).diags = [] := by
  have hl : getoptLeaf c name = some pre.length := by
    rw [getoptLeaf, hopts, findOptIdx_skip _ _ pre o0 post 0 hpre hname, Nat.zero_add]
  have href : (getoptPath c name).ref = some ⟨[], pre.length⟩ := by rw [C11_single_level c name hn, hl]; rfl
  exact ⟨href, getoptPath_resolved_quiet c name _ href⟩

/-- what the flat round trip asks of the option parsed into (`Printable`: of the option printed) -/
structure PlainDecl (o : Opt) : Prop where
  ty : o.ty = .int ∨ o.ty = .bool ∨ o.ty = .str
  noParse : o.info.parseCb = false
  noValid : o.info.validCb = false
  notDep : o.flags.deprecated = false
  notMulti : o.flags.multi = false
  name : plainName o.name
  free : freeEvOpt o = []

/-- the tokens a printed option scans to, with any line increments -/
inductive OptToks : Opt → List (Tok × Nat) → Prop
  | scalar (o : Opt) (v : Val) (t : Bytes) (n1 n2 n3 : Nat) :
      o.flags.list = false → o.vals = [v] → valText v = some t → goodCell o.ty v = true →
      OptToks o [(.str o.name, n1), (.eq, n2), (.str t, n3)]
  | listNil (o : Opt) (n1 n2 n3 n4 : Nat) :
      o.flags.list = true → o.vals = [] →
      OptToks o [(.str o.name, n1), (.eq, n2), (.lbrace, n3), (.rbrace, n4)]
  | listCons (o : Opt) (v0 : Val) (t0 : Bytes) (vs : List Val) (seq : List (Nat × Bytes × Nat)) (n1 n2 n3 c0 n0 n4 : Nat) :
      o.flags.list = true → o.vals = v0 :: vs → valText v0 = some t0 → goodCell o.ty v0 = true →
      seq.length = vs.length → (∀ i (h1 : i < seq.length) (h2 : i < vs.length), valText vs[i] = some seq[i].2.1 ∧ goodCell o.ty vs[i] = true) →
      OptToks o ([(.str o.name, n1), (.eq, n2), (.lbrace, n3)] ++ flatSeq true ((c0, t0, n0) :: seq) ++ [(.rbrace, n4)])

theorem convToks_of_good (ty : Ty) : ∀ (seq : List (Nat × Bytes × Nat)) (vs : List Val), seq.length = vs.length →
    (∀ i (h1 : i < seq.length) (h2 : i < vs.length), valText vs[i] = some seq[i].2.1 ∧ goodCell ty vs[i] = true) →
    convToks ty (seq.map (·.2.1)) = some vs := by
  intro seq
  induction seq with
  | nil => intro vs hl _; cases vs <;> simp_all [convToks]
  | cons x xs ih =>
    intro vs hl h
    cases vs with
    | nil => simp at hl
    | cons v vs' =>
      have h0 := h 0 (by simp) (by simp)
      simp only [List.getElem_cons_zero] at h0
      obtain ⟨t, ht, hc⟩ := convTok_valText ty v h0.2
      rw [h0.1] at ht
      injection ht with ht
      have ih' := ih vs' (by simpa using hl) (fun i h1 h2 => by
        have := h (i + 1) (by simp; omega) (by simp; omega)
        simpa using this)
      simp only [List.map_cons, convToks, ht, hc, ih']

structure AtItem (f : Frame) : Prop where
  st : f.state = .s0
  cm : f.comment = none
  nd : noPendingDeprecated f

/-- a frame as the parse starts it or `{` pushes it -/
theorem AtItem.fresh (c : Cfg) (l : Nat) (b : Option (OptRef × Nat)) : AtItem { cfg := c, level := l, back := b } :=
  ⟨rfl, rfl, fun _ _ hr => nomatch hr⟩

theorem item_frame (f : Frame) (pre post : List Opt) (o0 res : Opt) (L nv : Nat) (hcm : f.comment = none)
    (hopts : f.cfg.opts = pre ++ o0 :: post) (hdep : res.flags.deprecated = false) :
    AtItem { f with cfg := (f.cfg.setOpt ⟨[], pre.length⟩ res).setLine L, opt := some ⟨[], pre.length⟩, state := .s0, numValues := nv } ∧
    ((f.cfg.setOpt ⟨[], pre.length⟩ res).setLine L).opts = pre ++ res :: post ∧
    ((f.cfg.setOpt ⟨[], pre.length⟩ res).setLine L).flags = f.cfg.flags ∧
    ((f.cfg.setOpt ⟨[], pre.length⟩ res).setLine L).info.pff = f.cfg.info.pff := by
  exact ⟨⟨rfl, hcm, noPending_of_opt rfl ((getOpt_setLine _ _ _).trans (getOpt_setOpt _ _ _ _ (getOpt_top f.cfg pre o0 post hopts))) hdep⟩,
    by rw [opts_setLine]; exact setOpt_top _ _ _ _ _ hopts, by rw [setLine_flags, setOpt_flags],
    by show (f.cfg.setOpt _ res).info.pff = _; rw [setOpt_info]⟩

/-- **one printed option.** From an item boundary of a top-level frame whose option list is `pre ++ o0 :: post`, with
`o0` the declared counterpart of `o` (same name, type and list flag; plain) and no earlier option of that name, the
tokens of `o`'s printed form leave the machine at an item boundary of the same frame with that one option holding
exactly `o`'s values and everything else as it was. -/
theorem opt_step (orc : Oracle) (m : PM) (f : Frame) (rest : List Frame) (o o0 : Opt) (pre post : List Opt) (ts : List (Tok × Nat))
    (hrun : m.status = .running) (hfr : m.frames = f :: rest) (hat : AtItem f)
    (hopts : f.cfg.opts = pre ++ o0 :: post)
    (hpre : ∀ p ∈ pre, titleEq f.cfg.flags.nocase p.name o.name = false)
    (hname : o0.name = o.name) (hty : o0.ty = o.ty) (hlist : o0.flags.list = o.flags.list)
    (hd : PlainDecl o0) (hts : OptToks o ts) :
    ∃ f' res, parseToks orc m ts = { m with frames := f' :: rest } ∧ AtItem f' ∧ f'.level = f.level ∧ f'.back = f.back ∧ f'.opttitle = f.opttitle ∧
      f'.cfg.opts = pre ++ res :: post ∧ f'.cfg.flags = f.cfg.flags ∧ f'.cfg.info.pff = f.cfg.info.pff ∧
      res.vals = o.vals ∧ res.info = o0.info ∧ res.flags.deprecated = false ∧
      res.flags.list = o0.flags.list ∧ res.comment = o0.comment := by
  have hnm : plainName o.name := hname ▸ hd.name
  have hlook := getoptPath_top f.cfg o.name pre o0 post hnm hopts hpre (by rw [hname]; exact titleEq_refl _ _)
  have hget := getOpt_top f.cfg pre o0 post hopts
  have hty4 : o0.ty = .int ∨ o0.ty = .float ∨ o0.ty = .bool ∨ o0.ty = .str := by
    rcases hd.ty with h | h | h <;> simp [h]
  -- each kind of item is one equation of C01A; `item_frame` says what its right side means for the option list
  suffices h : ∃ (res : Opt) (L nv : Nat),
      parseToks orc m ts = { m with frames := { f with cfg := (f.cfg.setOpt ⟨[], pre.length⟩ res).setLine L, opt := some ⟨[], pre.length⟩,
                                                       state := .s0, numValues := nv } :: rest } ∧
      res.vals = o.vals ∧ res.info = o0.info ∧ res.flags.deprecated = false ∧ res.flags.list = o0.flags.list ∧ res.comment = o0.comment by
    obtain ⟨res, L, nv, e, h1, h2, h3, h4, h5⟩ := h
    obtain ⟨hA, hO, hF, hP⟩ := item_frame f pre post o0 res L nv hat.cm hopts h3
    exact ⟨_, res, e, hA, rfl, rfl, rfl, hO, hF, hP, h1, h2, h3, h4, h5⟩
  cases hts with
  | scalar v t n1 n2 n3 hl hv ht hg =>
    obtain ⟨t', ht', hconv⟩ := convTok_valText o.ty v hg
    rw [ht] at ht'; injection ht' with ht'; subst ht'
    exact ⟨_, _, _, C01_assign_denotes orc m f rest o.name t n1 n2 n3 ⟨[], pre.length⟩ o0 v hrun hfr hat.st hat.nd hat.cm
      hlook.1 hlook.2 hget hty4 hd.noParse hd.noValid (by rw [hlist]; exact hl) hd.notMulti (by rw [hty]; exact hconv) hd.free,
      by rw [hv]; rfl, rfl, hd.notDep, rfl, rfl⟩
  | listNil n1 n2 n3 n4 hl hv =>
    have hty' : o0.ty ≠ .sec ∧ o0.ty ≠ .func := by rcases hd.ty with h | h | h <;> simp [h]
    have := C01_empty_list_item orc m f rest o.name n1 false n2 n3 n4 ⟨[], pre.length⟩ o0 hrun hfr hat.st hat.nd
      hlook.1 hlook.2 hget hty' (by rw [hlist]; exact hl) hd.free
    exact ⟨_, _, _, this, by rw [hv]; cases o0; rfl, by cases o0; rfl, by cases o0; exact hd.notDep, by cases o0; rfl, by cases o0; rfl⟩
  | listCons v0 t0 vs seq n1 n2 n3 c0 n0 n4 hl hv ht0 hg0 hlen hall =>
    obtain ⟨t', ht', hconv0⟩ := convTok_valText o.ty v0 hg0
    rw [ht0] at ht'; injection ht' with ht'; subst ht'
    have hcs := convToks_of_good o.ty seq vs hlen hall
    have := C01_list_item orc m f rest o.name n1 false n2 n3 c0 t0 n0 seq n4 ⟨[], pre.length⟩ o0 v0 vs hrun hfr hat.st hat.nd hat.cm
      hlook.1 hlook.2 hget hty4 hd.noParse hd.noValid (by rw [hlist]; exact hl) hd.free (by rw [hty]; exact hconv0) (by rw [hty]; exact hcs)
    rw [appendVals_cons] at this
    exact ⟨_, _, _, this, by rw [hv]; cases o0; rfl, by cases o0; rfl, by cases o0; exact hd.notDep, by cases o0; rfl, by cases o0; rfl⟩

inductive FlatToks : List Opt → List (Tok × Nat) → Prop
  | nil : FlatToks [] []
  | cons (o : Opt) (os : List Opt) (ts tss : List (Tok × Nat)) : OptToks o ts → FlatToks os tss → FlatToks (o :: os) (ts ++ tss)

inductive All2 {α β : Type} (R : α → β → Prop) : List α → List β → Prop
  | nil : All2 R [] []
  | cons {a b as bs} : R a b → All2 R as bs → All2 R (a :: as) (b :: bs)

theorem All2.imp {α β : Type} {R S : α → β → Prop} (h : ∀ a b, R a b → S a b) : ∀ {as : List α} {bs : List β}, All2 R as bs → All2 S as bs := by
  intro as bs hab
  induction hab with
  | nil => exact .nil
  | cons hab _ ih => exact .cons (h _ _ hab) ih

def Aligned (o o0 : Opt) : Prop := o0.name = o.name ∧ o0.ty = o.ty ∧ o0.flags.list = o.flags.list ∧ PlainDecl o0

theorem names_step {nc : Bool} {pre os : List Opt} {o res : Opt} (hres : res.name = o.name)
    (hpre : ∀ p ∈ pre, ∀ o' ∈ o :: os, titleEq nc p.name o'.name = false)
    (hpw : List.Pairwise (fun a b => titleEq nc a.name b.name = false) (o :: os)) :
    (∀ p ∈ pre ++ [res], ∀ o' ∈ os, titleEq nc p.name o'.name = false) ∧
    List.Pairwise (fun a b => titleEq nc a.name b.name = false) os := by
  refine ⟨fun p hp o' ho' => ?_, (List.pairwise_cons.mp hpw).2⟩
  rcases List.mem_append.mp hp with hp | hp
  · exact hpre p hp o' (List.mem_cons_of_mem _ ho')
  · rw [List.mem_singleton.mp hp, hres]
    exact (List.pairwise_cons.mp hpw).1 o' ho'

/-- **all printed options, one after the other** (token level) -/
theorem flat_steps (orc : Oracle) : ∀ (os os0 : List Opt) (ts : List (Tok × Nat)) (m : PM) (f : Frame) (rest : List Frame) (pre : List Opt),
    FlatToks os ts → All2 Aligned os os0 →
    m.status = .running → m.frames = f :: rest → AtItem f → f.cfg.opts = pre ++ os0 →
    (∀ p ∈ pre, ∀ o ∈ os, titleEq f.cfg.flags.nocase p.name o.name = false) →
    List.Pairwise (fun a b => titleEq f.cfg.flags.nocase a.name b.name = false) os →
    ∃ f' done, parseToks orc m ts = { m with frames := f' :: rest } ∧ AtItem f' ∧ f'.level = f.level ∧ f'.back = f.back ∧
      f'.opttitle = f.opttitle ∧ f'.cfg.opts = pre ++ done ∧ f'.cfg.flags = f.cfg.flags ∧ f'.cfg.info.pff = f.cfg.info.pff ∧
      All2 (fun r o => r.vals = o.vals) done os ∧
      All2 (fun r o0 => r.info = o0.info ∧ r.flags.list = o0.flags.list ∧ r.comment = o0.comment) done os0 := by
  intro os
  induction os with
  | nil =>
    intro os0 ts m f rest pre hft hal hrun hfr hat hopts _ _
    cases hft
    cases hal
    exact ⟨f, [], by rw [← hfr]; rfl, hat, rfl, rfl, rfl, by simpa using hopts, rfl, rfl, All2.nil, All2.nil⟩
  | cons o os ih =>
    intro os0 ts m f rest pre hft hal hrun hfr hat hopts hpre hpw
    cases hft with
    | cons _ _ ts1 tss h1 h2 =>
      cases hal with
      | cons hA hAs =>
        rename_i o0 os0'
        obtain ⟨hname, hty, hlist, hd⟩ := hA
        obtain ⟨f1, res, e1, hat1, hlev1, hbk1, hot1, hopts1, hfl1, hpf1, hv1, hi1, hdep1, hls1, hcm1⟩ :=
          opt_step orc m f rest o o0 pre os0' ts1 hrun hfr hat hopts (fun p hp => hpre p hp o (by simp)) hname hty hlist hd h1
        rw [parseToks_append, e1]
        have hn := names_step ((congrArg OptInfo.name hi1).trans hname) hpre hpw
        obtain ⟨f2, done, e2, hat2, hlev2, hbk2, hot2, hopts2, hfl2, hpf2, hv2, hd2⟩ :=
          ih os0' tss { m with frames := f1 :: rest } f1 rest (pre ++ [res]) h2 hAs hrun rfl hat1
            (by rw [hopts1]; simp) (by rw [hfl1]; exact hn.1) (by rw [hfl1]; exact hn.2)
        refine ⟨f2, res :: done, e2, hat2, by rw [hlev2, hlev1], by rw [hbk2, hbk1], by rw [hot2, hot1], by rw [hopts2]; simp, by rw [hfl2, hfl1], by rw [hpf2, hpf1],
          All2.cons hv1 hv2, All2.cons ⟨hi1, hls1, hcm1⟩ hd2⟩

end Confuse
