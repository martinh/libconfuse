import Confuse.Props.C14A
/-!
# C14 — the callback log of a whole list assignment in closed form

`name = { v1, …, vk }` / `name += { … }` for a list option with a validation callback: after every value the parser
stores, the callback runs with the values held so far visible (all of them, in order), before the next token is looked
at; it runs once more at the closing brace.  The log is the old log plus exactly these k + 1 invocations, in this order,
as long as every verdict lets the parse go on.
-/
namespace Confuse

/-- a value token inside the braces of a list option with a validation callback whose verdict is "go on" -/
theorem pstep_value_list_valid (orc : Oracle) (m : PM) (f : Frame) (rest : List Frame) (v : Bytes) (n3 : Nat) (r : OptRef) (o : Opt) (val : Val)
    (hrun : m.status = .running) (hfr : m.frames = f :: rest) (hst : f.state = .s2) (hopt : f.opt = some r)
    (hcm : f.comment = none) (hget : f.cfg.getOpt r = some o)
    (hty : o.ty = .int ∨ o.ty = .float ∨ o.ty = .bool ∨ o.ty = .str) (hpc : o.info.parseCb = false) (hvc : o.info.validCb = true)
    (hl : o.flags.list = true) (hconv : convTok o.ty v = some val) (hfree : freeEvOpt o = [])
    (hok : orc m.k (CbCall.valid o.name ((o.appendVal val).vals.map Val.snap)) ≠ .fail) :
    pstep orc m (.str v) n3 =
      { m with frames := { f with cfg := (f.cfg.setLine (f.cfg.line + n3)).setOpt r (o.appendVal val),
                                  state := .s4, numValues := f.numValues + 1 } :: rest,
               trace := CbCall.valid o.name ((o.appendVal val).vals.map Val.snap) :: m.trace } :=
  pstep_list_value orc true m f rest v n3 r o val hrun hfr hst hopt hcm hget ⟨hty, hpc, hvc, hl, hfree⟩ hconv (fun _ => hok)

/-- **the values after the first one**, each followed by its validation -/
theorem list_tail_loop_valid (orc : Oracle) : ∀ (vs : List (Nat × Bytes × Nat)) (vals : List Val) (m : PM) (f : Frame) (rest : List Frame)
    (r : OptRef) (o : Opt),
    m.status = .running → m.frames = f :: rest → f.state = .s4 → f.opt = some r → f.comment = none →
    f.cfg.getOpt r = some o →
    (o.ty = .int ∨ o.ty = .float ∨ o.ty = .bool ∨ o.ty = .str) → o.info.parseCb = false → o.info.validCb = true →
    o.flags.list = true → freeEvOpt o = [] →
    convToks o.ty (vs.map (·.2.1)) = some vals →
    validsOk orc m.k o vals →
    parseToks orc m (flatSeq false vs) =
      { m with frames := { f with cfg := (f.cfg.setOpt r (o.appendVals vals)).setLine (f.cfg.line + seqLines vs),
                                  numValues := f.numValues + vs.length } :: rest,
               trace := validTrace o vals ++ m.trace } :=
  fun vs vals m f rest r o hrun hfr hst hopt hcm hget hty hpc hvc hl hfree hcv hok =>
    list_tail_steps orc true vs vals m f rest r o hrun hfr hst hopt hcm hget ⟨hty, hpc, hvc, hl, hfree⟩ hcv (fun _ => hok)

/-- `}` after the last value: the validation callback runs once more, over the whole list -/
theorem pstep_close_list_valid (orc : Oracle) (m : PM) (f : Frame) (rest : List Frame) (n : Nat) (r : OptRef) (o : Opt)
    (hrun : m.status = .running) (hfr : m.frames = f :: rest) (hst : f.state = .s4) (hopt : f.opt = some r)
    (hget : f.cfg.getOpt r = some o) (hvc : o.info.validCb = true)
    (hok : orc m.k (CbCall.valid o.name (o.vals.map Val.snap)) ≠ .fail) :
    pstep orc m .rbrace n = { m with frames := { f with cfg := f.cfg.setLine (f.cfg.line + n), state := .s0 } :: rest,
                                     trace := CbCall.valid o.name (o.vals.map Val.snap) :: m.trace } :=
  pstep_close_list orc true m f rest n r o hrun hfr hst hopt hget hvc (fun _ => hok)

/-- **C14 (the callback log of one list assignment, in closed form).** `name = { v1, …, vk }` or `name += { … }` (k ≥ 1)
at an item boundary, for a list option with a validation callback (and no value-parsing callback) whose tokens convert:
if every verdict lets the parse go on, the machine ends at an item boundary with the option holding the denoted values,
and the log is the old log plus exactly k + 1 invocations of the validation callback - after the i-th stored value with
the values held at that moment (what was there, if appended to, then v1 … vi), and once more at the closing brace with
all of them - in this order, nothing else. -/
theorem C14_list_trace (orc : Oracle) (m : PM) (f : Frame) (rest : List Frame) (name : Bytes) (n1 : Nat) (app : Bool) (n2 n3 : Nat)
    (c0 : Nat) (v0 : Bytes) (n0 : Nat) (vs : List (Nat × Bytes × Nat)) (n4 : Nat)
    (r : OptRef) (o : Opt) (val0 : Val) (vals : List Val)
    (hrun : m.status = .running) (hfr : m.frames = f :: rest) (hst : f.state = .s0)
    (hnd : noPendingDeprecated f) (hcm : f.comment = none)
    (hres : (getoptPath f.cfg name).ref = some r) (hsil : (getoptPath f.cfg name).diags = [])
    (hget : f.cfg.getOpt r = some o)
    (hty : o.ty = .int ∨ o.ty = .float ∨ o.ty = .bool ∨ o.ty = .str)
    (hpc : o.info.parseCb = false) (hvc : o.info.validCb = true) (hl : o.flags.list = true) (hfree : freeEvOpt o = [])
    (hc0 : convTok o.ty v0 = some val0) (hcs : convToks o.ty (vs.map (·.2.1)) = some vals)
    (hok : validsOk orc m.k (o.markAsg app) (val0 :: vals))
    (hokc : orc (m.k + (vals.length + 1)) (CbCall.valid o.name (((o.markAsg app).appendVals (val0 :: vals)).vals.map Val.snap)) ≠ .fail) :
    parseToks orc m ([(.str name, n1), (asgTok app, n2), (.lbrace, n3)] ++ flatSeq true ((c0, v0, n0) :: vs) ++ [(.rbrace, n4)]) =
      { m with frames :=
          { f with cfg := (f.cfg.setOpt r ((o.markAsg app).appendVals (val0 :: vals))).setLine
                            (f.cfg.line + n1 + n2 + n3 + n0 + seqLines vs + n4),
                   opt := some r, state := .s0, numValues := vs.length + 1 } :: rest,
               trace := CbCall.valid o.name (((o.markAsg app).appendVals (val0 :: vals)).vals.map Val.snap) ::
                          (validTrace (o.markAsg app) (val0 :: vals) ++ m.trace) } :=
  list_item_steps orc true m f rest name n1 app n2 n3 c0 v0 n0 vs n4 r o val0 vals hrun hfr hst hnd hcm hres hsil hget
    ⟨hty, hpc, hvc, hl, hfree⟩ hc0 hcs (fun _ => hok) (fun _ => hokc)

/-- the premises about the verdicts are met by every callback that never refuses -/
theorem validsOk_of_never_fails (orc : Oracle) (h : ∀ k c, orc k c ≠ .fail) : ∀ (vals : List Val) (k : Nat) (o : Opt), validsOk orc k o vals := by
  intro vals
  induction vals with
  | nil => intro k o; trivial
  | cons v vs ih => intro k o; exact ⟨h _ _, ih _ _⟩

example : validsOk (fun _ _ => CbRes.ok) 0 (default : Opt) [.int 1, .int 2] :=
  validsOk_of_never_fails _ (by intro k c; simp) _ _ _

end Confuse
