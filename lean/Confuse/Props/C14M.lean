import Confuse.Lemmas.Mono
import Confuse.Spec.Items
/-!
# C14 / C06 — the invocation log and the diagnostics only grow, in token order
-/
namespace Confuse

/-- **C14 (invocations are made in text order and never retracted).** For any token sequence split
anywhere: the callback invocations made while parsing the first part are, unchanged and in the same
order, the oldest part of the invocations made while parsing the whole — so the invocation log of a
text is the concatenation, in text order, of what each piece of it caused, whatever happens later
(including a rejection).  The same holds for the diagnostics. -/
theorem C14_log_monotone (orc : Oracle) (m : PM) (a b : List LTok) :
    (∃ cs, (parseToks orc m (a ++ b)).trace = cs ++ (parseToks orc m a).trace) ∧
    (∃ ds, (parseToks orc m (a ++ b)).diags = ds ++ (parseToks orc m a).diags) := by
  rw [parseToks_append]
  exact parseToks_grows orc b (parseToks orc m a)

/-- one step never removes or reorders a callback invocation or a diagnostic -/
theorem C14_step_monotone (orc : Oracle) (m : PM) (tok : Tok) (nl : Nat) :
    (∃ cs, (pstep orc m tok nl).trace = cs ++ m.trace) ∧ (∃ ds, (pstep orc m tok nl).diags = ds ++ m.diags) :=
  pstep_grows orc m tok nl

/-- **C14 (per item).** The invocations caused by the items of a text appear item by item: after
items `is₁` the log is a suffix of the log after `is₁ ++ is₂`. -/
theorem C14_items_in_order (orc : Oracle) (m : PM) (is1 is2 : List Item) :
    ∃ cs, (parseToks orc m (flats (is1 ++ is2))).trace = cs ++ (parseToks orc m (flats is1)).trace := by
  have hf : flats (is1 ++ is2) = flats is1 ++ flats is2 := by
    induction is1 with
    | nil => rfl
    | cons i is ih => simp [flats, ih]
  rw [hf]
  exact (C14_log_monotone orc m (flats is1) (flats is2)).1

end Confuse
