import Confuse.Props.C05R
/-!
# C05 — sections one level deep, token level

Depth one as its own statements: section bodies are flat (`FlatToks`, `Aligned`).  Everything here is the any-body
development of `C05R` at `bodySteps_flat`; only `C05_section_item` and `C05_single_section_item` say more than their
general versions (the depth reached is known, since a flat body pushes no frame) and come from `section_item_around`
and `flat_steps`.
-/
namespace Confuse

/-- **one printed section instance.** From an item boundary of a frame whose option list is `pre ++ o0 :: post`, with `o0`
an untitled multi section option (no earlier option of that name), the tokens `name { body }` - `body` the tokens of a
printed flat instance `c` whose options are the declared counterparts of `o0`'s sub-options - leave the machine at an
item boundary of the same frame, with ONE MORE instance appended to that section option: an instance holding, option
by option, exactly `c`'s values.  Everything else is as it was. -/
theorem C05_section_item (orc : Oracle) (m : PM) (f : Frame) (rest : List Frame) (o0 : Opt) (pre post : List Opt) (c : Cfg)
    (body : List (Tok × Nat)) (n1 n2 n3 : Nat)
    (hrun : m.status = .running) (hfr : m.frames = f :: rest) (hat : AtItem f) (hot : f.opttitle = none)
    (hopts : f.cfg.opts = pre ++ o0 :: post)
    (hpre : ∀ p ∈ pre, titleEq f.cfg.flags.nocase p.name o0.name = false)
    (hd : SecDecl o0) (hbody : FlatToks c.opts body)
    (hal : ∀ ci, All2 Aligned c.opts (mkSection ci o0 none).opts)
    (hpw : List.Pairwise (fun a b => titleEq f.cfg.flags.nocase a.name b.name = false) c.opts) :
    ∃ f' res s', parseToks orc m ([(.str o0.name, n1), (.lbrace, n2)] ++ body ++ [(.rbrace, n3)]) =
        { m with frames := f' :: rest, maxDepth := max m.maxDepth (rest.length + 2) } ∧
      AtItem f' ∧ f'.opttitle = none ∧ f'.level = f.level ∧ f'.back = f.back ∧
      f'.cfg.opts = pre ++ res :: post ∧ f'.cfg.flags = f.cfg.flags ∧
      res = Opt.mk o0.info { o0.flags with modified := true } o0.subs (o0.vals ++ [.sec s']) o0.comment ∧
      All2 (fun r o => r.vals = o.vals) s'.opts c.opts := by
  obtain ⟨ci, ch, below, hci, hco, hcf, hcat, hcot, K⟩ :=
    section_item_around orc m f rest o0 pre post n1 n2 (hd.enters orc) hrun hfr hat hot hopts hpre
  have hnc : ch.cfg.flags.nocase = f.cfg.flags.nocase := by rw [hcf, ← hci]; rfl
  obtain ⟨ch', done, e3, hat3, hlev3, hbk3, _, hopts3, _, _, hv3, _⟩ :=
    flat_steps orc c.opts _ body { m with frames := ch :: below :: rest, maxDepth := max m.maxDepth (rest.length + 2) } ch (below :: rest) []
      hbody (hal ci) hrun rfl hcat hco (by intro p hp; cases hp) (by rw [hnc]; exact hpw)
  exact K body n3 ch' _ (All2 (fun r o => r.vals = o.vals) · c.opts) e3 hat3 hlev3 hbk3 (by rw [hopts3]; exact hv3)

/-- `InstToksP FlatToks`, written out -/
inductive InstToks (name : Bytes) : List Cfg → List (Tok × Nat) → Prop
  | nil : InstToks name [] []
  | cons (c : Cfg) (cs : List Cfg) (body ts : List (Tok × Nat)) (n1 n2 n3 : Nat) :
      FlatToks c.opts body → InstToks name cs ts →
      InstToks name (c :: cs) ([(.str name, n1), (.lbrace, n2)] ++ body ++ [(.rbrace, n3)] ++ ts)

theorem InstToks.toP {name : Bytes} {cs : List Cfg} {ts : List (Tok × Nat)} (h : InstToks name cs ts) : InstToksP FlatToks name cs ts := by
  induction h with
  | nil => exact .nil
  | cons c cs body ts n1 n2 n3 hb _ ih => exact .cons c cs body ts n1 n2 n3 hb ih

theorem InstToks.ofP {name : Bytes} {cs : List Cfg} {ts : List (Tok × Nat)} (h : InstToksP FlatToks name cs ts) : InstToks name cs ts := by
  induction h with
  | nil => exact .nil
  | cons c cs body ts n1 n2 n3 hb _ ih => exact .cons c cs body ts n1 n2 n3 hb ih

/-- **all printed instances of one section option**, flat bodies: `inst_steps_gen` at `bodySteps_flat`. -/
theorem inst_steps (orc : Oracle) : ∀ (cs : List Cfg) (c : Cfg) (ts : List (Tok × Nat)) (m : PM) (f : Frame) (rest : List Frame) (o0 : Opt) (pre post : List Opt),
    InstToks o0.name (c :: cs) ts →
    m.status = .running → m.frames = f :: rest → AtItem f → f.opttitle = none →
    f.cfg.opts = pre ++ o0 :: post →
    (∀ p ∈ pre, titleEq f.cfg.flags.nocase p.name o0.name = false) →
    SecDecl o0 →
    (∀ x ∈ c :: cs, (∀ ci, All2 Aligned x.opts (mkSection ci o0 none).opts) ∧
               List.Pairwise (fun a b => titleEq f.cfg.flags.nocase a.name b.name = false) x.opts) →
    ∃ f' ss md, parseToks orc m ts = { m with frames := f' :: rest, maxDepth := md } ∧
      AtItem f' ∧ f'.opttitle = none ∧ f'.level = f.level ∧ f'.back = f.back ∧
      f'.cfg.opts = pre ++ (o0.withInstances ss) :: post ∧ f'.cfg.flags = f.cfg.flags ∧
      All2 (fun s' x => All2 (fun r o => r.vals = o.vals) s'.opts x.opts) ss (c :: cs) :=
  fun cs c ts m f rest o0 pre post hts hrun hfr hat hot hopts hpre hd hall =>
    inst_steps_gen orc (bodySteps_flat orc) cs c ts m f rest o0 pre post hts.toP hrun hfr hat hot hopts hpre hd
      (fun x hx ci => ⟨(hall x hx).1 ci, (hall x hx).2⟩)

/-- **the printed instance of a single section.** `name { body }` for a section that is not multi and holds its one
instance `s0` (as after `cfg_init`, or after anything else): the instance is entered, the body's tokens leave its
options holding exactly the printed values (whatever they held), and it is written back in place. -/
theorem C05_single_section_item (orc : Oracle) (m : PM) (f : Frame) (rest : List Frame) (o0 : Opt) (s0 : Cfg) (pre post : List Opt) (c : Cfg)
    (body : List (Tok × Nat)) (n1 n2 n3 : Nat)
    (hrun : m.status = .running) (hfr : m.frames = f :: rest) (hat : AtItem f) (hot : f.opttitle = none)
    (hopts : f.cfg.opts = pre ++ o0 :: post)
    (hpre : ∀ p ∈ pre, titleEq f.cfg.flags.nocase p.name o0.name = false)
    (hd : SingleDecl o0) (hv0 : o0.vals = [.sec s0]) (hbody : FlatToks c.opts body)
    (hal : All2 Aligned c.opts s0.opts)
    (hpw : List.Pairwise (fun a b => titleEq s0.flags.nocase a.name b.name = false) c.opts) :
    ∃ f' res s', parseToks orc m ([(.str o0.name, n1), (.lbrace, n2)] ++ body ++ [(.rbrace, n3)]) =
        { m with frames := f' :: rest, maxDepth := max m.maxDepth (rest.length + 2) } ∧
      AtItem f' ∧ f'.opttitle = none ∧ f'.level = f.level ∧ f'.back = f.back ∧
      f'.cfg.opts = pre ++ res :: post ∧ f'.cfg.flags = f.cfg.flags ∧
      res = Opt.mk o0.info { o0.flags with modified := true } o0.subs [.sec s'] o0.comment ∧
      All2 (fun r o => r.vals = o.vals) s'.opts c.opts := by
  obtain ⟨ci, ch, below, hci, hco, hcf, hcat, hcot, K⟩ :=
    section_item_around orc m f rest o0 pre post n1 n2 (hd.enters orc hv0) hrun hfr hat hot hopts hpre
  obtain ⟨ch', done, e3, hat3, hlev3, hbk3, _, hopts3, _, _, hv3, _⟩ :=
    flat_steps orc c.opts _ body { m with frames := ch :: below :: rest, maxDepth := max m.maxDepth (rest.length + 2) } ch (below :: rest) []
      hbody hal hrun rfl hcat hco (by intro p hp; cases hp) (by rw [hcf]; exact hpw)
  exact K body n3 ch' _ (All2 (fun r o => r.vals = o.vals) · c.opts) e3 hat3 hlev3 hbk3 (by rw [hopts3]; exact hv3)

/-- `Tree1ToksP FlatToks`, written out -/
inductive Tree1Toks : List Opt → List (Tok × Nat) → Prop
  | nil : Tree1Toks [] []
  | plain (o : Opt) (os : List Opt) (ts tss : List (Tok × Nat)) :
      o.ty ≠ .sec → OptToks o ts → Tree1Toks os tss → Tree1Toks (o :: os) (ts ++ tss)
  | secNone (o : Opt) (os : List Opt) (tss : List (Tok × Nat)) :
      o.ty = .sec → o.vals = [] → Tree1Toks os tss → Tree1Toks (o :: os) tss
  | sec (o : Opt) (os : List Opt) (c : Cfg) (cs : List Cfg) (ts tss : List (Tok × Nat)) :
      o.ty = .sec → o.vals = (c :: cs).map Val.sec → InstToks o.name (c :: cs) ts → Tree1Toks os tss →
      Tree1Toks (o :: os) (ts ++ tss)

/-- `Aligned1P` over flat bodies, with the distinctness of names inside every instance spelled out -/
def Aligned1 (nc : Bool) (o o0 : Opt) : Prop :=
  (o.ty ≠ .sec ∧ Aligned o o0) ∨
  (o.ty = .sec ∧ o0.name = o.name ∧ SecDecl o0 ∧ o0.vals = [] ∧
     ∀ c, Val.sec c ∈ o.vals → (∀ ci, All2 Aligned c.opts (mkSection ci o0 none).opts) ∧
                               List.Pairwise (fun a b => titleEq nc a.name b.name = false) c.opts) ∨
  (o.ty = .sec ∧ o0.name = o.name ∧ SingleDecl o0 ∧
     ∃ c s0, o.vals = [.sec c] ∧ o0.vals = [.sec s0] ∧ All2 Aligned c.opts s0.opts ∧
       List.Pairwise (fun a b => titleEq s0.flags.nocase a.name b.name = false) c.opts)

/-- `SameVals1P` at flat bodies, written out -/
def SameVals1 (r o : Opt) : Prop :=
  (o.ty ≠ .sec ∧ r.vals = o.vals) ∨
  (o.ty = .sec ∧ ∃ ss cs, o.vals = cs.map Val.sec ∧ r.vals = ss.map Val.sec ∧
     All2 (fun s' c => All2 (fun a b => a.vals = b.vals) s'.opts c.opts) ss cs)

theorem Tree1Toks.toP {os : List Opt} {ts : List (Tok × Nat)} (h : Tree1Toks os ts) : Tree1ToksP FlatToks os ts := by
  induction h with
  | nil => exact .nil
  | plain o os ts tss hty h1 _ ih => exact .plain o os ts tss hty h1 ih
  | secNone o os tss hty hv _ ih => exact .secNone o os tss hty hv ih
  | sec o os c cs ts tss hty hv h1 _ ih => exact .sec o os c cs ts tss hty hv h1.toP ih

theorem Tree1Toks.ofP {os : List Opt} {ts : List (Tok × Nat)} (h : Tree1ToksP FlatToks os ts) : Tree1Toks os ts := by
  induction h with
  | nil => exact .nil
  | plain o os ts tss hty h1 _ ih => exact .plain o os ts tss hty h1 ih
  | secNone o os tss hty hv _ ih => exact .secNone o os tss hty hv ih
  | sec o os c cs ts tss hty hv h1 _ ih => exact .sec o os c cs ts tss hty hv (InstToks.ofP h1) ih

/-- `Aligned1` is `Aligned1P` over flat bodies, the conjunction under `∀ ci` instead of around it -/
theorem Aligned1.toP {nc : Bool} {o o0 : Opt} (h : Aligned1 nc o o0) : Aligned1P (AlignedT 0) nc o o0 := by
  rcases h with h | ⟨h1, h2, h3, h4, h5⟩ | ⟨h1, h2, h3, c, s0, h4, h5, h6, h7⟩
  · exact Or.inl h
  · exact Or.inr (Or.inl ⟨h1, h2, h3, h4, fun c hc ci => ⟨(h5 c hc).1 ci, (h5 c hc).2⟩⟩)
  · exact Or.inr (Or.inr ⟨h1, h2, h3, c, s0, h4, h5, h6, h7⟩)

/-- **a whole printed configuration of depth one, token level.** The tokens a printed configuration scans to - plain
options and untitled multi sections with flat bodies, any number of instances each - fed to the machine at an item
boundary of a context with the same declarations (section options still without instances, as `cfg_init` leaves them):
the machine ends at an item boundary, every plain option holds exactly the printed values, and every section option
has exactly the printed instances, in order, each holding exactly the printed values. -/
theorem tree1_steps (orc : Oracle) (nc : Bool) : ∀ (os os0 : List Opt) (ts : List (Tok × Nat)) (m : PM) (f : Frame) (rest : List Frame) (pre : List Opt),
    Tree1Toks os ts → All2 (Aligned1 nc) os os0 → f.cfg.flags.nocase = nc →
    m.status = .running → m.frames = f :: rest → AtItem f → f.opttitle = none → f.cfg.opts = pre ++ os0 →
    (∀ p ∈ pre, ∀ o ∈ os, titleEq nc p.name o.name = false) →
    List.Pairwise (fun a b => titleEq nc a.name b.name = false) os →
    ∃ f' done md, parseToks orc m ts = { m with frames := f' :: rest, maxDepth := md } ∧ AtItem f' ∧ f'.opttitle = none ∧
      f'.level = f.level ∧ f'.back = f.back ∧ f'.cfg.opts = pre ++ done ∧ f'.cfg.flags = f.cfg.flags ∧
      All2 SameVals1 done os :=
  fun os os0 ts m f rest pre hts hal hnc hrun hfr hat hot hopts hpre hpw =>
    tree1_steps_gen orc (bodySteps_flat orc) nc os os0 ts m f rest pre hts.toP (hal.imp fun _ _ => Aligned1.toP) hnc hrun hfr hat hot hopts hpre hpw

/-- non-vacuity: the section `n { z = 5 }` of a schema `n` (multi) with one integer option `z` meets the premises -/
example :
    let o0 : Opt := Opt.mk { name := [110], ty := .sec } { multi := true } [Decl.mk { name := [122], ty := .int } {} []] [] none
    let c : Cfg := Cfg.mk { name := [110] } [Opt.mk { name := [122], ty := .int } {} [] [.int 5] none]
    SecDecl o0 ∧ (∀ ci, All2 Aligned c.opts (mkSection ci o0 none).opts) ∧
      FlatToks c.opts [(.str [122], 0), (.eq, 0), (.str (printInt 5), 0)] := by
  intro o0 c
  refine ⟨⟨⟨rfl, rfl⟩, rfl, rfl, rfl, rfl, ⟨by decide, by decide⟩⟩, ?_, ?_⟩
  · intro ci
    have hn : (mkOpt (sectionInfo ci o0.name o0.flags none) (Decl.mk { name := [122], ty := .int } {} [])).name = [122] := rfl
    refine All2.cons ⟨rfl, rfl, rfl, ⟨Or.inl rfl, rfl, rfl, rfl, rfl, ?_, rfl⟩⟩ All2.nil
    rw [hn]; exact ⟨by decide, by decide⟩
  · have h := FlatToks.cons (Opt.mk { name := [122], ty := .int } {} [] [.int 5] none) [] _ []
      (OptToks.scalar _ (.int 5) (printInt 5) 0 0 0 rfl rfl rfl (by decide)) FlatToks.nil
    exact h

/-- non-vacuity of the depth-one theorem's token relation: `n { z = 5 }` as the printed form of a section option holding
one instance -/
example :
    let c : Cfg := Cfg.mk { name := [110] } [Opt.mk { name := [122], ty := .int } {} [] [.int 5] none]
    let o : Opt := Opt.mk { name := [110], ty := .sec } { multi := true } [Decl.mk { name := [122], ty := .int } {} []] [.sec c] none
    Tree1Toks [o] ([(.str [110], 0), (.lbrace, 0)] ++ [(.str [122], 0), (.eq, 0), (.str (printInt 5), 0)] ++ [(.rbrace, 1)] ++ [] ++ []) := by
  intro c o
  have hb : FlatToks c.opts [(.str [122], 0), (.eq, 0), (.str (printInt 5), 0)] :=
    FlatToks.cons (Opt.mk { name := [122], ty := .int } {} [] [.int 5] none) [] _ []
      (OptToks.scalar _ (.int 5) (printInt 5) 0 0 0 rfl rfl rfl (by decide)) FlatToks.nil
  exact Tree1Toks.sec o [] c [] _ [] rfl rfl (InstToks.cons c [] _ [] 0 0 1 hb InstToks.nil) Tree1Toks.nil

end Confuse
