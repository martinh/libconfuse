import Confuse.Lemmas.Splice
import Confuse.Lemmas.Loop
/-!
# C13 — the text of an included file, read on its own, gives the tokens it gives in place

`Scan env inp ts` (`Lemmas/Loop.lean`): the parse loop, calling the scanner on `inp` until it answers end-of-input or an
error, is handed exactly the tokens `ts` (the last one being that end or error).  It is the
fuel-free description of what `parseLoopFrom` feeds to `pstep` from one source.

**Splice.**  If a file's text `a` (no `$`; ending in a newline, as text files do) scans on its own
to `ta` followed by end-of-input, then `a` written in place in front of `o` scans to `ta` followed
by the tokens of `o`: no token is cut, merged or re-read across the joint.  (The property itself, for the parse loop
with its source stack, is `C13_include_in_place` of `Props/C13L.lean`; it uses the scanner lemma `lexInitial_app`
directly, not this corollary.)
-/
namespace Confuse

theorem Scan.unique (env : Env) {inp : Bytes} {ts ts' : List Tok} (h : Scan env inp ts) (h' : Scan env inp ts') : ts = ts' := by
  induction h generalizing ts' with
  | eof inp he =>
    cases h' with
    | eof _ _ => rfl
    | err _ e he' => rw [he] at he'; cases he'
    | tok _ _ hne _ _ => exact absurd he hne
  | err inp e he =>
    cases h' with
    | eof _ he' => rw [he] at he'; cases he'
    | err _ e' he' => rw [he] at he'; cases he'; rfl
    | tok _ _ _ herr _ => rw [he] at herr; simp [Tok.isErr] at herr
  | tok inp ts hne herr _ ih =>
    cases h' with
    | eof _ he' => exact absurd he' hne
    | err _ e' he' => rw [he'] at herr; simp [Tok.isErr] at herr
    | tok _ ts'' _ _ hs => rw [ih hs]

/-- white space (and what the scanner eats like it) at the end of `a` is skipped into what follows -/
theorem scan_skip (env : Env) (a o : Bytes) (to : List Tok) (hnd : NoDollar a) (he : EndsNl a)
    (heof : (lexInitial env 0 a).tok = .eof) (ho : Scan env o to) : Scan env (a ++ o) to := by
  obtain ⟨ht, hr⟩ := skip_lex env a o hnd he heof
  cases ho with
  | eof _ h => exact Scan.eof _ (ht.trans h)
  | err _ e h => exact Scan.err _ e (ht.trans h)
  | tok _ ts hne herr hs =>
    rw [← ht]
    exact Scan.tok _ ts (by rw [ht]; exact hne) (by rw [ht]; exact herr) (by rw [hr]; exact hs)

/-- **C13 (splice).** -/
theorem C13_splice (env : Env) (a o : Bytes) (ta to : List Tok) (hnd : NoDollar a) (he : EndsNl a)
    (ha : Scan env a (ta ++ [.eof])) (ho : Scan env o to) : Scan env (a ++ o) (ta ++ to) := by
  induction ta generalizing a with
  | nil =>
    rcases scan_inv env a [] ha with ⟨heof, _⟩ | ⟨_, _, _, e, _⟩
    · exact scan_skip env a o to hnd he heof ho
    · cases e
  | cons t ta ih =>
    rcases scan_inv env a (t :: ta) ha with ⟨_, e⟩ | ⟨hne, herr, ta', e, hs⟩
    · cases e
    · cases e
      obtain ⟨happ, hsuf⟩ := (lexInitial_app env o a 0 hnd he).2 hne herr
      have e1 : (lexInitial env 0 (a ++ o)).tok = (lexInitial env 0 a).tok := (congrArg LexOut.tok happ :)
      have e2 : (lexInitial env 0 (a ++ o)).rest = (lexInitial env 0 a).rest ++ o := (congrArg LexOut.rest happ :)
      rw [← e1]
      exact Scan.tok _ _ (by rw [e1]; exact hne) (by rw [e1]; exact herr)
        (by rw [e2]; exact ih _ (hnd.suffix hsuf) (he.suffix hsuf) hs)

-- the hypotheses are met by an ordinary file, and the conclusion is about a real joint
private def exA : Bytes := [120, 32, 61, 32, 49, 10]          -- "x = 1\n"
private def exO : Bytes := [10, 121, 32, 61, 32, 50, 10]      -- "\ny = 2\n"
example : NoDollar exA ∧ EndsNl exA := ⟨(by decide : ∀ c ∈ exA, c ≠ c_dollar), fun _ hx => (Option.some.inj hx).symm⟩
example : lexBuf (fun _ => none) exA = [(.str [120], 0), (.eq, 0), (.str [49], 0), (.eof, 1)] := by decide
example : (lexBuf (fun _ => none) (exA ++ exO)).map (·.1) = [.str [120], .eq, .str [49], .str [121], .eq, .str [50], .eof] := by decide

end Confuse
