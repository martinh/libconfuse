import Confuse.Lemmas.Num
/-!
# C04 — text-to-number/boolean conversion is exact or rejected
-/
namespace Confuse
open Confuse.Spec

/-- explicit radix (0x / 0b / leading 0) -/
theorem convInt_prefixed (base : Nat) (hb : base = 2 ∨ base = 8 ∨ base = 16) (ds : Bytes) :
    convIntWith base ds =
    (if (base == 8 || !ds.isEmpty) && allDigits base ds then
       (if longMin ≤ (digitsValue base ds : Int) ∧ (digitsValue base ds : Int) ≤ longMax then .ok (digitsValue base ds : Int) else .error .range)
     else .error .invalid) := by
  cases ds with
  | nil => rcases hb with h | h | h <;> subst h <;> rfl
  | cons c cs =>
    have hdo : digitsOk (c :: cs) base = allDigits base (c :: cs) := by
      have : (base == 10) = false := by rcases hb with h | h | h <;> subst h <;> rfl
      simp [digitsOk, this, allDigits]
    by_cases hall : allDigits base (c :: cs) = true
    · have hc := ((allDigits_cons ..).mp hall).1
      rw [convIntWith_digits base base _ _ false (hdo.trans hall)
        (strtolC_unsigned base base c cs (by omega) (hexPrefix_digits base (by omega) _ hall)
          (if_neg (by omega))) (List.cons_ne_nil _ _) hall]
      simp [hall]
    · simp [convIntWith, hdo, hall]

/-- for any `tok`: leading white space, which `strtol` would skip, is stopped by the digit check -/
theorem convIntWith_decimal (tok r : Bytes) (neg : Bool) (hs : splitSign tok = (neg, r)) :
    convIntWith 10 tok =
    (if !r.isEmpty && allDigits 10 r then
       (let n : Int := if neg then -(digitsValue 10 r : Int) else (digitsValue 10 r : Int)
        if longMin ≤ n ∧ n ≤ longMax then .ok n else .error .range)
     else .error .invalid) := by
  cases r with
  | nil => simp [convIntWith, digitsOk, hs]
  | cons d ds =>
    have htok : tok ≠ [] := by intro e; subst e; cases hs
    by_cases hd : isDec d = true
    · by_cases hsp : tok.dropWhile isSpaceC = tok
      · have hst : strtolC tok 10 = strtolCore neg 10 tok (d :: ds) := by simp [strtolC, hsp, hs, hexPrefix]
        by_cases hall : allDigits 10 (d :: ds) = true
        · rw [convIntWith_digits 10 10 tok _ neg (by simp [digitsOk, hs, hd]) hst (List.cons_ne_nil _ _) hall]
          simp [hall]
        · rw [convIntWith_junk 10 10 tok _ neg hst htok (by simpa using hall)]
          simp [hall]
      · -- `tok` begins with white space: that is no sign, so `r = tok`, which begins with a digit
        exfalso
        match tok, hs, hsp with
        | c :: cs, hs, hsp =>
          have hc : isSpaceC c = true := by
            cases h : isSpaceC c
            · exact absurd (List.dropWhile_cons_of_neg (Bool.eq_false_iff.1 h)) hsp
            · rfl
          have h1 : c ≠ c_minus ∧ c ≠ c_plus := by
            constructor <;> (intro e; subst e; revert hc; decide)
          rw [splitSign_digit c cs h1.1 h1.2] at hs
          cases hs
          rw [(digit_not_space_sign d 10 (by omega) ((digitVal_lt10 d).mpr hd)).1] at hc
          cases hc
    · have : ¬ digitVal d < 10 := fun h => hd ((digitVal_lt10 d).mp h)
      simp [convIntWith, digitsOk, hs, hd, allDigits, this]

/-- signed decimal: `tok` = optional sign ++ `r` -/
theorem convInt_decimal (tok r : Bytes) (neg : Bool)
    (hsp : tok.dropWhile isSpaceC = tok) (hs : splitSign tok = (neg, r)) (htok : tok ≠ []) :
    convIntWith 10 tok =
    (if !r.isEmpty && allDigits 10 r then
       (let n : Int := if neg then -(digitsValue 10 r : Int) else (digitsValue 10 r : Int)
        if longMin ≤ n ∧ n ≤ longMax then .ok n else .error .range)
     else .error .invalid) :=
  convIntWith_decimal tok r neg hs

theorem radixOf_oct (ds : Bytes) (hx : ∀ t, ds ≠ 120 :: t) (hb : ∀ t, ds ≠ 98 :: t) :
    radixOf (48 :: ds) = (8, ds) := by
  unfold radixOf; split
  · rename_i h; injection h with _ h; exact (hb _ h).elim
  · rename_i h; injection h with _ h; exact (hx _ h).elim
  · rename_i h; injection h with _ h; rw [h]
  · rename_i h; exact (h _ rfl).elim

theorem radixOf_dec (tok : Bytes) (h : ∀ t, tok ≠ 48 :: t) : radixOf tok = (10, tok) := by
  unfold radixOf; split
  · exact (h _ rfl).elim
  · exact (h _ rfl).elim
  · exact (h _ rfl).elim
  · rfl

theorem verdict_ite (c : Prop) [Decidable c] (n : Int) :
    (match (if c then some n else none) with
     | none => Except.error ConvErr.invalid
     | some n => if longMin ≤ n ∧ n ≤ longMax then .ok n else .error .range) =
    if c then (if longMin ≤ n ∧ n ≤ longMax then .ok n else .error .range) else .error .invalid := by
  by_cases h : c <;> simp only [h, if_true, if_false]

/-- **C04 (integers).** For EVERY byte string the conversion answers exactly what the numeral grammar
says: the denoted number if it fits a `long`, a range error if it does not, and "invalid" for
everything that is not a numeral — no truncation, wrap-around or default.  (This rests on fix F36: without
it a sign in front of a radix prefix, `-010` / `+0x1f`, is read by `strtol` in base 0.) -/
theorem C04_int (tok : Bytes) : convInt tok = intExpected tok := by
  suffices ∀ o, intNumeral tok = o → convInt tok = (match o with
      | none => .error .invalid
      | some n => if longMin ≤ n ∧ n ≤ longMax then .ok n else .error .range) from this _ rfl
  intro o ho
  -- one case per line of the grammar; in each, `radixOf` picks the radix the grammar names
  unfold intNumeral at ho
  split at ho <;> subst ho <;> rw [verdict_ite]
  · exact convInt_prefixed 16 (by simp) _
  · exact convInt_prefixed 2 (by simp) _
  · rename_i ds h1 h2
    rw [convInt, radixOf_oct ds h1 h2]
    exact convInt_prefixed 8 (by simp) ds
  · exact convIntWith_decimal (45 :: _) _ true rfl
  · exact convIntWith_decimal (43 :: _) _ false rfl
  · rename_i _ _ h3 h4 h5
    rw [convInt, radixOf_dec tok h3]
    refine convIntWith_decimal tok tok false ?_
    match tok, h4, h5 with
    | [], _, _ => rfl
    | c :: cs, h4, h5 => exact splitSign_digit c cs (fun e => h4 cs (e ▸ rfl)) (fun e => h5 cs (e ▸ rfl))

theorem intNumeral_dec (c : Nat) (cs : Bytes) (h48 : c ≠ 48) (h45 : c ≠ 45) (h43 : c ≠ 43) :
    intNumeral (c :: cs) = if (!(c :: cs).isEmpty && allDigits 10 (c :: cs)) = true
      then some (digitsValue 10 (c :: cs) : Int) else none := by
  unfold intNumeral; split
  iterate 5 (rename_i h; injection h; contradiction)
  rfl

/-- **C04 (no silent wrap).** Whatever is accepted is inside the range of `long`. -/
theorem C04_int_range (tok : Bytes) (n : Int) (h : convInt tok = .ok n) :
    longMin ≤ n ∧ n ≤ longMax ∧ intNumeral tok = some n := by
  rw [C04_int tok] at h
  unfold intExpected at h
  cases hn : intNumeral tok with
  | none => simp [hn] at h
  | some m =>
    simp only [hn] at h
    split at h
    · rename_i hr
      injection h with h; subst h
      exact ⟨hr.1, hr.2, rfl⟩
    · simp at h

/-- **C04 (booleans).** Exactly the six words, in any letter case. -/
theorem C04_bool (tok : Bytes) : convBool tok = boolWord tok := by
  -- model and grammar compare `lowerBytes tok` with the same six words, listed in a different order
  have words : bytesOfString "true" = [116, 114, 117, 101] ∧ bytesOfString "yes" = [121, 101, 115] ∧
      bytesOfString "on" = [111, 110] ∧ bytesOfString "false" = [102, 97, 108, 115, 101] ∧
      bytesOfString "no" = [110, 111] ∧ bytesOfString "off" = [111, 102, 102] := by decide
  have rot {a b c : Prop} : (a ∨ b) ∨ c ↔ a ∨ c ∨ b := or_assoc.trans (or_congr_right or_comm)
  obtain ⟨e1, e2, e3, e4, e5, e6⟩ := words
  simp only [convBool, boolWord, e1, e2, e3, e4, e5, e6, Bool.or_eq_true, beq_iff_eq, rot]

/-- **C04 (floats: full match, finite).** An accepted float token was consumed entirely, does not
begin with white space, and its value is a finite double (never inf/nan, never a range error). -/
theorem C04_float_accept (tok : Bytes) (b : Nat) (h : convFloat tok = .ok b) :
    (strtodC tok).rest = [] ∧ (strtodC tok).consumed = true ∧ (strtodC tok).erange = false ∧
    (∃ neg m e, (strtodC tok).val = .fin neg m e ∧ b = (Dbl.fin neg m e).toBits) ∧
    leadingSpace tok = false := by
  unfold convFloat at h
  by_cases h1 : (!(strtodC tok).rest.isEmpty || !(strtodC tok).consumed || leadingSpace tok) = true
  · simp [h1] at h
  · by_cases h2 : (strtodC tok).erange = true
    · simp [h1, h2] at h
    · by_cases h3 : (!(strtodC tok).val.isFinite) = true
      · simp [h1, h2, h3] at h
      · simp only [h1, h2, h3, if_false, Bool.false_eq_true] at h
        injection h with h
        simp only [Bool.or_eq_true, Bool.not_eq_true', not_or, Bool.not_eq_true] at h1
        refine ⟨by simpa using h1.1.1, by simpa using h1.1.2, by simpa using h2, ?_, h1.2⟩
        cases hv : (strtodC tok).val with
        | fin neg m e => exact ⟨neg, m, e, rfl, by rw [← h, hv]⟩
        | inf neg => simp [hv, Dbl.isFinite] at h3
        | nan => simp [hv, Dbl.isFinite] at h3

/-! Non-vacuity -/
example : convInt [48, 120, 49, 70] = .ok 31 := by decide
example : convInt [45, 48, 49, 48] = .ok (-10) ∧ convInt [43, 48, 120, 49, 102] = .error .invalid := by decide
example : intExpected [57,50,50,51,51,55,50,48,51,54,56,53,52,55,55,53,56,48,56] = .error .range := by decide
example : intExpected [45,57,50,50,51,51,55,50,48,51,54,56,53,52,55,55,53,56,48,56] = .ok longMin := by decide
example : intExpected [48, 120] = .error .invalid ∧ intExpected [48, 56] = .error .invalid := by decide

end Confuse
