import Confuse.Lemmas.Parser
import Confuse.Lemmas.Span
/-!
# C17 — file names resolve deterministically via search path and tilde

The file system and the passwd database are oracles (`PEnv.fs`, `PEnv.passwd`).  The search path is
stored newest-first (the C list is prepended to) and searched oldest-first (the C recursion goes to
the tail first), i.e. in the order the directories were added.
-/
namespace Confuse

/-- the directories in the order they were added -/
def addedOrder (dirs : List Bytes) : List Bytes := dirs.reverse

def candidate (d file : Bytes) : Bytes := d ++ [c_slash] ++ file

/-- **C17 (first directory, in the order added, that holds a regular file).** -/
theorem C17_first_added (pe : PEnv) (dirs : List Bytes) (file : Bytes) (h : file.head? ≠ some c_slash) :
    searchpath pe dirs file = ((addedOrder dirs).find? (fun d => isRegular pe (candidate d file))).map (fun d => candidate d file) := by
  unfold searchpath addedOrder candidate
  have : (file.head? == some c_slash) = false := by simpa using h
  simp only [this, Bool.false_eq_true, if_false]
  induction dirs.reverse with
  | nil => rfl
  | cons d ds ih =>
    simp only [List.map_cons, List.find?_cons]
    cases isRegular pe (d ++ [c_slash] ++ file)
    · exact ih
    · simp

/-- earlier-added directories win, whatever comes later -/
theorem C17_precedence (pe : PEnv) (older newer : List Bytes) (d file : Bytes) (h : file.head? ≠ some c_slash)
    (hreg : isRegular pe (candidate d file) = true)
    (hnone : ∀ e ∈ older, isRegular pe (candidate e file) = false) :
    -- the C list holds the newest first: newer ++ [d] ++ older.reverse is "older added first, then d, then newer"
    searchpath pe (newer ++ d :: older.reverse) file = some (candidate d file) := by
  rw [C17_first_added pe _ file h]
  simp only [addedOrder, List.reverse_append, List.reverse_cons, List.reverse_reverse, List.append_assoc]
  rw [List.find?_append]
  have h1 : older.find? (fun d => isRegular pe (candidate d file)) = none := by
    rw [List.find?_eq_none]; intro e he; simp [hnone e he]
  simp [h1, hreg]

/-- **C17 (absolute names bypass the list).** -/
theorem C17_absolute (pe : PEnv) (dirs : List Bytes) (file : Bytes) (h : file.head? = some c_slash) :
    searchpath pe dirs file = (if isRegular pe file then some file else none) := by
  simp [searchpath, h]

/-- **C17 (directories and missing files never match).** -/
theorem C17_regular_only (pe : PEnv) (dirs : List Bytes) (file r : Bytes) (h : searchpath pe dirs file = some r) :
    isRegular pe r = true := by
  unfold searchpath at h
  split at h
  · split at h
    · rename_i hr; injection h with h; subst h; exact hr
    · simp at h
  · have := List.find?_some h
    exact this

/-- **C17 (tilde).** `~` and `~/x` use the effective user's home, `~user` and `~user/x` that user's;
an unknown user leaves the text unchanged; anything not starting with `~` is unchanged. -/
theorem C17_tilde (pe : PEnv) :
    (∀ rest home, pe.passwd none = some home → tildeExpand pe (126 :: c_slash :: rest) = home ++ c_slash :: rest) ∧
    (∀ home, pe.passwd none = some home → tildeExpand pe [126] = home) ∧
    (∀ user rest home, user ≠ [] → (∀ c ∈ user, c ≠ c_slash) → pe.passwd (some user) = some home →
        tildeExpand pe (126 :: user ++ c_slash :: rest) = home ++ c_slash :: rest) ∧
    (∀ user rest, user ≠ [] → (∀ c ∈ user, c ≠ c_slash) → pe.passwd (some user) = none →
        tildeExpand pe (126 :: user ++ c_slash :: rest) = 126 :: user ++ c_slash :: rest) ∧
    (∀ c cs, c ≠ 126 → tildeExpand pe (c :: cs) = c :: cs) := by
  have named : ∀ user rest, user ≠ [] → (∀ c ∈ user, c ≠ c_slash) →
      tildeExpand pe (126 :: user ++ c_slash :: rest) =
        match pe.passwd (some user) with | some home => home ++ c_slash :: rest | none => 126 :: user ++ c_slash :: rest := by
    intro user rest hne hu
    cases user with
    | nil => exact absurd rfl hne
    | cons u us =>
      have hu0 : u ≠ c_slash := hu u (by simp)
      have := span_append (p := (· != c_slash)) rest (List.all_eq_true.2 fun c hc => bne_iff_ne.2 (hu c hc)) (bne_self_eq_false c_slash)
      simp only [List.cons_append] at this
      simp [tildeExpand, hu0, this.1, this.2]
      rfl
  refine ⟨?_, ?_, ?_, ?_, ?_⟩
  · intro rest home h; simp [tildeExpand, h]
  · intro home h; simp [tildeExpand, h]
  · intro user rest home hne hu hp; rw [named user rest hne hu, hp]
  · intro user rest hne hu hp; rw [named user rest hne hu, hp]
  · intro c cs h; simp [tildeExpand, h]

/-- **C17 (same resolution for top-level parse and include).** Both go through `resolveFile`. -/
theorem C17_same_resolution (orc : Oracle) (pe : PEnv) (c : Cfg) (name : Bytes) (m : PM) (f : Frame) (rest : List Frame)
    (hfr : m.frames = f :: rest) (hdepth : ¬ (m.srcs.length - 1 ≥ pe.maxInc)) (hnone : resolveFile pe name = none) :
    (parseFile orc pe c name).rc = -1 ∧ (doInclude pe m name).status = .rejected := by
  constructor
  · simp [parseFile, hnone]
  · rw [doInclude_eq pe m name hfr, includeTarget, if_neg hdepth, hnone]; rfl

end Confuse
