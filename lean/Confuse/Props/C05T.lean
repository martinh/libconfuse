import Confuse.Props.C05S
/-!
# C05 — configurations one level deep, BYTE level

Depth one as its own statements (flat section bodies): `C05R` at depth 1, through the bridges of `C05S`.
-/
namespace Confuse

structure PrintableInst (s : Cfg) : Prop where
  nopff : s.info.pff = none
  opts : ∀ o ∈ s.opts, Printable o

/-- **one printed section instance scans to its tokens**: `lex_instance_gen` at flat bodies -/
theorem lex_instance (env : Env) (name : Bytes) (s : Cfg) (j k : Nat) (tail : Bytes) (h0 : ∀ c ∈ name, c ≠ 0) (hs : PrintableInst s) :
    ∃ body n1 n3, FlatToks s.opts body ∧
      LexSteps env (List.replicate k c_nl ++ (indentBytes j ++ printName name ++ [c_sp, c_lbr, c_nl] ++ printCfg none (j + 1) s ++
                      indentBytes j ++ [c_rbr, c_nl] ++ tail))
        ([(.str name, n1), (.lbrace, 0)] ++ body ++ [(.rbrace, n3)]) (List.replicate 1 c_nl ++ tail) :=
  lex_instance_gen env (lex_tree env 0) name s j k tail h0 hs.nopff hs.opts

/-- **all printed instances of an untitled section option scan to their tokens**: `lex_insts_gen` at flat bodies -/
theorem lex_insts (env : Env) (o : Opt) (j : Nat) (ht : o.flags.title = false) (h0 : ∀ c ∈ o.name, c ≠ 0) :
    ∀ (cs : List Cfg) (k : Nat) (tail : Bytes), (∀ c ∈ cs, PrintableInst c) →
    ∃ ts k', InstToks o.name cs ts ∧
      LexSteps env (List.replicate k c_nl ++ (printVals o none j (cs.map Val.sec) ++ tail)) ts (List.replicate k' c_nl ++ tail) :=
  fun cs k tail hall =>
    let ⟨ts, k', h, hl⟩ := lex_insts_gen env (lex_tree env 0) o j ht h0 cs k tail (fun c hc => ⟨(hall c hc).nopff, (hall c hc).opts⟩)
    ⟨ts, k', InstToks.ofP h, hl⟩

structure PrintableSec (o : Opt) : Prop where
  ty : o.ty = .sec
  notitle : o.flags.title = false
  noComment : o.comment = none
  name0 : ∀ c ∈ o.name, c ≠ 0
  insts : ∃ cs : List Cfg, o.vals = cs.map Val.sec ∧ ∀ c ∈ cs, PrintableInst c

def Printable1 (o : Opt) : Prop := (o.ty ≠ .sec ∧ Printable o) ∨ PrintableSec o

theorem PrintableSec.toP {o : Opt} (h : PrintableSec o) : PrintableSecP (PrintableT 0) o :=
  let ⟨cs, hv, hc⟩ := h.insts
  ⟨h.ty, h.notitle, h.noComment, h.name0, cs, hv, fun c hc' => ⟨(hc c hc').nopff, (hc c hc').opts⟩⟩

theorem printable1_T {os : List Opt} (h : ∀ o ∈ os, Printable1 o) : PrintableT 1 os :=
  fun o ho => (h o ho).imp id PrintableSec.toP

/-- **the printed text of a configuration of depth one scans to its tokens** -/
theorem lex_tree1 (env : Env) : ∀ (os : List Opt) (k : Nat) (rest : Bytes), (∀ o ∈ os, Printable1 o) →
    ∃ ts k', Tree1Toks os ts ∧ LexSteps env (List.replicate k c_nl ++ (printOpts none 0 os ++ rest)) ts (List.replicate k' c_nl ++ rest) :=
  fun os k rest hall =>
    let ⟨ts, k', h, hl⟩ := lex_tree env 1 0 os k rest (printable1_T hall)
    ⟨ts, k', Tree1Toks.ofP h, hl⟩

/-- **C05 (configurations one level deep, byte level).** Print a configuration `c` whose options are plain integer /
boolean / string options (scalar or list), untitled multi sections holding any number of flat instances, and single
sections holding their one flat instance - no callbacks, annotations or print filter - and parse the printed text with
`cfg_parse_buf` into ANY context `c0` with the same declarations whose multi sections have no instances yet and whose
single sections hold their instance (as `cfg_init` leaves them; what the instance's options hold does not matter): the parse is
accepted, every plain option of the result holds exactly the value sequence of its counterpart in `c`, and every section
option has exactly `c`'s instances, in order, each holding option by option exactly the printed values.  Bytes
(indentation included), scanner, parse loop and token machine (frames pushed and popped) are all inside the statement. -/
theorem C05_tree1_roundtrip (orc : Oracle) (pe : PEnv) (c c0 : Cfg)
    (hpff : c.info.pff = none) (hpr : ∀ o ∈ c.opts, Printable1 o)
    (hal : All2 (Aligned1 c0.flags.nocase) c.opts c0.opts)
    (hpw : List.Pairwise (fun a b => titleEq c0.flags.nocase a.name b.name = false) c.opts) :
    (parseBuf orc pe c0 (cfgPrint c)).rc = 0 ∧
    All2 SameVals1 (parseBuf orc pe c0 (cfgPrint c)).cfg.opts c.opts :=
  C05_tree_roundtrip orc pe 1 c c0 hpff (printable1_T hpr) ⟨hal.imp fun _ _ => Aligned1.toP, hpw⟩

/-- non-vacuity: `i=7` and one instance `n { z=5 }`, printed and parsed into a context declared alike (`i` holding
another value, `n` still without instances), meets every premise of `C05_tree1_roundtrip` -/
example :
    let inst : Cfg := Cfg.mk { name := [110] } [Opt.mk { name := [122], ty := .int } {} [] [.int 5] none]
    let c : Cfg := Cfg.mk { name := [114] }
      [Opt.mk { name := [105], ty := .int } {} [] [.int 7] none,
       Opt.mk { name := [110], ty := .sec } { multi := true } [Decl.mk { name := [122], ty := .int } {} []] [.sec inst] none]
    let c0 : Cfg := Cfg.mk { name := [114] }
      [Opt.mk { name := [105], ty := .int } {} [] [.int 1] none,
       Opt.mk { name := [110], ty := .sec } { multi := true } [Decl.mk { name := [122], ty := .int } {} []] [] none]
    c.info.pff = none ∧ (∀ o ∈ c.opts, Printable1 o) ∧ All2 (Aligned1 c0.flags.nocase) c.opts c0.opts ∧
      List.Pairwise (fun a b => titleEq c0.flags.nocase a.name b.name = false) c.opts := by
  intro inst c c0
  have hz : Printable (Opt.mk { name := [122], ty := .int } {} [] [.int 5] none) :=
    ⟨Or.inl rfl, rfl, rfl, by decide, by decide, fun _ => ⟨_, rfl⟩⟩
  have hi : Printable (Opt.mk { name := [105], ty := .int } {} [] [.int 7] none) :=
    ⟨Or.inl rfl, rfl, rfl, by decide, by decide, fun _ => ⟨_, rfl⟩⟩
  refine ⟨rfl, ?_, ?_, by decide⟩
  · intro o ho
    simp only [c, Cfg.opts, List.mem_cons, List.not_mem_nil, or_false] at ho
    rcases ho with rfl | rfl
    · exact Or.inl ⟨by decide, hi⟩
    · exact Or.inr ⟨rfl, rfl, rfl, by decide, [inst], rfl, by intro x hx; simp at hx; subst hx; exact ⟨rfl, by intro o ho; simp [inst, Cfg.opts] at ho; subst ho; exact hz⟩⟩
  · refine All2.cons (Or.inl ⟨by decide, rfl, rfl, rfl, ⟨Or.inl rfl, rfl, rfl, rfl, rfl, ⟨by decide, by decide⟩, rfl⟩⟩) (All2.cons (Or.inr (Or.inl ⟨rfl, rfl, ?_, rfl, ?_⟩)) All2.nil)
    · exact ⟨⟨rfl, rfl⟩, rfl, rfl, rfl, rfl, ⟨by decide, by decide⟩⟩
    · intro x hx
      simp [Opt.vals] at hx
      subst hx
      refine ⟨?_, by decide⟩
      intro ci
      have hn : ∀ si, (mkOpt si (Decl.mk { name := [122], ty := .int } {} [])).name = [122] := fun _ => rfl
      refine All2.cons ⟨rfl, rfl, rfl, ⟨Or.inl rfl, rfl, rfl, rfl, rfl, ?_, rfl⟩⟩ All2.nil
      rw [hn]; exact ⟨by decide, by decide⟩

end Confuse
