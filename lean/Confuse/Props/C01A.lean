import Confuse.Lemmas.Store
import Confuse.Lemmas.Assign
/-!
# C01 — whole items in closed form: a scalar assignment, a list assignment

`C01_refinement` relates the token machine to the compositional evaluator for every item list; the theorems here
say what a single *linear* item does, as one equation between machine states.
-/
namespace Confuse

/-- **a scalar assignment with ANY callbacks**: the first two tokens select the option and mark it "replace"; the value
token is `cfg_setopt` + validation + annotation on exactly that frame -/
theorem C01_assign_general (orc : Oracle) (m : PM) (f : Frame) (rest : List Frame) (name v : Bytes) (n1 n2 n3 : Nat)
    (r : OptRef) (o : Opt)
    (hrun : m.status = .running) (hfr : m.frames = f :: rest) (hst : f.state = .s0)
    (hnd : noPendingDeprecated f)
    (hres : (getoptPath f.cfg name).ref = some r) (hsil : (getoptPath f.cfg name).diags = [])
    (hget : f.cfg.getOpt r = some o) (hty : o.ty ≠ .sec ∧ o.ty ≠ .func) (hnl : o.flags.list = false) :
    parseToks orc m [(.str name, n1), (.eq, n2), (.str v, n3)] =
      storeValue orc
        { m with frames := { f with cfg := (f.cfg.setOpt r o.markReplace).setLine (f.cfg.line + n1 + n2 + n3), opt := some r, state := .s2 } :: rest }
        { f with cfg := (f.cfg.setOpt r o.markReplace).setLine (f.cfg.line + n1 + n2 + n3), opt := some r, state := .s2 } rest v .s0 := by
  let mk : Frame → PM := fun F => { m with frames := F :: rest }
  let F1 : Frame := { f with cfg := f.cfg.setLine (f.cfg.line + n1), opt := some r, state := .s1 }
  let F2 : Frame := { F1 with cfg := (F1.cfg.setLine (F1.cfg.line + n2)).setOpt r o.markReplace, state := .s2 }
  have g1 : F1.cfg.getOpt r = some o := (getOpt_setLine _ _ r).trans hget
  have e1 : pstep orc m (.str name) n1 = mk F1 := pstep_name orc m f rest name n1 r o hrun hfr hst hnd hres hsil hget hty
  have e2 : pstep orc (mk F1) .eq n2 = mk F2 := by
    rw [show Tok.eq = asgTok false from rfl, pstep_asg orc (mk F1) F1 rest false n2 r o hrun rfl rfl rfl g1 nofun, hnl]
    rfl
  have e3 := pstep_value orc (mk F2) F2 rest v n3 r o.markReplace hrun rfl rfl rfl (getOpt_setOpt _ r o _ ((getOpt_setLine _ _ r).trans g1))
  rw [show o.markReplace.flags.list = false from hnl] at e3
  simp only [parseToks_cons, parseToks_nil]
  rw [e1, e2, e3]
  simp only [F2, F1, Frame.addLine, setLine_line, setLine_setLine, setOpt_setLine]
  rfl

/-- **C01 (a scalar assignment, as one item).** At an item boundary, `name = v` for a name that resolves (silently) to a
plain scalar option without callbacks whose text converts: the machine ends at an item boundary again and the only
change to the context is `cfg_setopt` of that option started from "replace" - the option holds exactly the value
`v` denotes, whatever it held before (defaults, an earlier value); the line is advanced by the three tokens. -/
theorem C01_assign_scalar (orc : Oracle) (m : PM) (f : Frame) (rest : List Frame) (name v : Bytes) (n1 n2 n3 : Nat)
    (r : OptRef) (o : Opt)
    (hrun : m.status = .running) (hfr : m.frames = f :: rest) (hst : f.state = .s0)
    (hnd : noPendingDeprecated f) (hcm : f.comment = none)
    (hres : (getoptPath f.cfg name).ref = some r) (hsil : (getoptPath f.cfg name).diags = [])
    (hget : f.cfg.getOpt r = some o)
    (hty : o.ty ≠ .sec ∧ o.ty ≠ .func) (hnl : o.flags.list = false) (hcb : o.info.validCb = false)
    (hok : (setopt orc m.k (f.cfg.setLine (f.cfg.line + n1 + n2 + n3)).info
              o.markReplace (some v)).res.isSome = true)
    (hcalls : (setopt orc m.k (f.cfg.setLine (f.cfg.line + n1 + n2 + n3)).info
              o.markReplace (some v)).calls = [])
    (hdiags : (setopt orc m.k (f.cfg.setLine (f.cfg.line + n1 + n2 + n3)).info
              o.markReplace (some v)).diags = []) :
    parseToks orc m [(.str name, n1), (.eq, n2), (.str v, n3)] =
      { m with frames := assignFrame orc m.k f r o v (f.cfg.line + n1 + n2 + n3) :: rest } := by
  let F : Frame := { f with cfg := (f.cfg.setOpt r o.markReplace).setLine (f.cfg.line + n1 + n2 + n3), opt := some r, state := .s2 }
  have hinfo : F.cfg.info = (f.cfg.setLine (f.cfg.line + n1 + n2 + n3)).info :=
    congrArg (fun i : CfgInfo => { i with line := f.cfg.line + n1 + n2 + n3 }) (setOpt_info f.cfg r _)
  rw [← hinfo] at hok hcalls hdiags
  obtain ⟨i, hi⟩ := Option.isSome_iff_exists.1 hok
  -- the record `cfg_setopt` returns is handed over eta-expanded, three of its fields as the hypotheses give them
  rw [C01_assign_general orc m f rest name v n1 n2 n3 r o hrun hfr hst hnd hres hsil hget hty hnl,
    storeValue_silent orc { m with frames := F :: rest } F rest v .s0 r o.markReplace _ i rfl hcm
      ((getOpt_setLine _ _ r).trans (getOpt_setOpt _ r o _ hget))
      (show setopt orc m.k F.cfg.info o.markReplace (some v) = ⟨_, some i, [], []⟩ by rw [← hi, ← hcalls, ← hdiags])
      (fun h => by rw [(setopt_sameDecl orc _ _ o.markReplace _).1] at h; exact absurd (hcb ▸ h) nofun)]
  rw [(setopt_sameDecl orc _ _ o.markReplace _).1, show o.markReplace.info = o.info from rfl, hcb, hinfo]
  simp only [F, assignFrame, setOpt_setLine, setOpt_setOpt]
  rfl

/-- **C01 ('=' replaces; a repeated scalar keeps the last value).** At an item boundary the item `name = v`, for a
name that resolves silently to a plain scalar option (integer, float, boolean, string; no callbacks) and a text `v`
that denotes the value `val` for that type, leaves the machine at an item boundary with that option holding exactly
`[val]` - whatever it held before (its default, a value from an earlier line) - marked set and no longer pristine,
its annotation kept, every other option and every other frame untouched (the lens laws), no diagnostic, no callback.
The context is on the line the value token ended on. -/
theorem C01_assign_denotes (orc : Oracle) (m : PM) (f : Frame) (rest : List Frame) (name v : Bytes) (n1 n2 n3 : Nat)
    (r : OptRef) (o : Opt) (val : Val)
    (hrun : m.status = .running) (hfr : m.frames = f :: rest) (hst : f.state = .s0)
    (hnd : noPendingDeprecated f) (hcm : f.comment = none)
    (hres : (getoptPath f.cfg name).ref = some r) (hsil : (getoptPath f.cfg name).diags = [])
    (hget : f.cfg.getOpt r = some o)
    (hty : o.ty = .int ∨ o.ty = .float ∨ o.ty = .bool ∨ o.ty = .str)
    (hpc : o.info.parseCb = false) (hcb : o.info.validCb = false)
    (hnl : o.flags.list = false) (hnm : o.flags.multi = false)
    (hconv : convTok o.ty v = some val) (hfree : freeEvOpt o = []) :
    parseToks orc m [(.str name, n1), (.eq, n2), (.str v, n3)] =
      { m with frames :=
          { f with cfg := (f.cfg.setOpt r (.mk o.info { o.flags with reset := false, modified := true } o.subs [val] o.comment)).setLine
                            (f.cfg.line + n1 + n2 + n3),
                   opt := some r, state := .s0, numValues := f.numValues + 1 } :: rest } := by
  have hso := setopt_replace_plain orc m.k (f.cfg.setLine (f.cfg.line + n1 + n2 + n3)).info o v val hty hpc hnl hnm hconv hfree
  have hty' : o.ty ≠ .sec ∧ o.ty ≠ .func := by
    rcases hty with h | h | h | h <;> simp [h]
  rw [C01_assign_scalar orc m f rest name v n1 n2 n3 r o hrun hfr hst hnd hcm hres hsil hget hty' hnl hcb
        (by rw [hso]; rfl) (by rw [hso]) (by rw [hso])]
  simp only [assignFrame, hso]

/-- non-vacuity: the hypotheses are met by an ordinary integer option and the text `42` -/
example : convTok .int [52, 50] = some (.int 42) := by
  have h : convInt [52, 50] = .ok 42 := by decide
  simp [convTok, h]

theorem list_head_steps (orc : Oracle) (m : PM) (f : Frame) (rest : List Frame) (name : Bytes) (n1 : Nat) (app : Bool) (n2 n3 : Nat)
    (r : OptRef) (o : Opt)
    (hrun : m.status = .running) (hfr : m.frames = f :: rest) (hst : f.state = .s0) (hnd : noPendingDeprecated f)
    (hres : (getoptPath f.cfg name).ref = some r) (hsil : (getoptPath f.cfg name).diags = [])
    (hget : f.cfg.getOpt r = some o) (hty : o.ty ≠ .sec ∧ o.ty ≠ .func) (hl : o.flags.list = true) :
    parseToks orc m [(.str name, n1), (asgTok app, n2), (.lbrace, n3)] =
      { m with frames := { f with cfg := (f.cfg.setOpt r (o.markAsg app)).setLine (f.cfg.line + n1 + n2 + n3),
                                  opt := some r, state := .s2, numValues := 0 } :: rest } := by
  let mk : Frame → PM := fun F => { m with frames := F :: rest }
  let F1 : Frame := { f with cfg := f.cfg.setLine (f.cfg.line + n1), opt := some r, state := .s1 }
  let F2 : Frame := { F1 with cfg := (F1.cfg.setLine (F1.cfg.line + n2)).setOpt r (o.markAsg app), state := .s3, numValues := 0 }
  have e1 : pstep orc m (.str name) n1 = mk F1 := pstep_name orc m f rest name n1 r o hrun hfr hst hnd hres hsil hget hty
  have e2 : pstep orc (mk F1) (asgTok app) n2 = mk F2 := by
    rw [pstep_asg orc (mk F1) F1 rest app n2 r o hrun rfl rfl rfl ((getOpt_setLine _ _ r).trans hget) (fun _ => hl), hl]
    rfl
  simp only [parseToks_cons, parseToks_nil]
  rw [e1, e2, pstep_lbrace_list orc (mk F2) F2 rest n3 hrun rfl rfl]
  simp only [F2, F1, setLine_line, setLine_setLine, setOpt_setLine]
  rfl

/-- `b`: with a validation callback or without.  The callback, as long as it says "go on", runs after every stored value
and once more at the closing brace; these k + 1 invocations are all the log gains. -/
theorem list_item_steps (orc : Oracle) (b : Bool) (m : PM) (f : Frame) (rest : List Frame) (name : Bytes) (n1 : Nat) (app : Bool)
    (n2 n3 : Nat) (c0 : Nat) (v0 : Bytes) (n0 : Nat) (vs : List (Nat × Bytes × Nat)) (n4 : Nat)
    (r : OptRef) (o : Opt) (val0 : Val) (vals : List Val)
    (hrun : m.status = .running) (hfr : m.frames = f :: rest) (hst : f.state = .s0)
    (hnd : noPendingDeprecated f) (hcm : f.comment = none)
    (hres : (getoptPath f.cfg name).ref = some r) (hsil : (getoptPath f.cfg name).diags = [])
    (hget : f.cfg.getOpt r = some o) (ho : o.PlainList b)
    (hc0 : convTok o.ty v0 = some val0) (hcs : convToks o.ty (vs.map (·.2.1)) = some vals)
    (hok : b = true → validsOk orc m.k (o.markAsg app) (val0 :: vals))
    (hokc : b = true →
      orc (m.k + (vals.length + 1)) (CbCall.valid o.name (((o.markAsg app).appendVals (val0 :: vals)).vals.map Val.snap)) ≠ .fail) :
    parseToks orc m ([(.str name, n1), (asgTok app, n2), (.lbrace, n3)] ++ flatSeq true ((c0, v0, n0) :: vs) ++ [(.rbrace, n4)]) =
      { m with frames :=
          { f with cfg := (f.cfg.setOpt r ((o.markAsg app).appendVals (val0 :: vals))).setLine
                            (f.cfg.line + n1 + n2 + n3 + n0 + seqLines vs + n4),
                   opt := some r, state := .s0, numValues := vs.length + 1 } :: rest,
               trace := (if b then CbCall.valid o.name (((o.markAsg app).appendVals (val0 :: vals)).vals.map Val.snap) ::
                                     validTrace (o.markAsg app) (val0 :: vals) else []) ++ m.trace } := by
  have hty : o.ty ≠ .sec ∧ o.ty ≠ .func := by rcases ho.ty with h | h | h | h <;> simp [h]
  have ho1 := ho.markAsg app
  have ho2 : ((o.markAsg app).appendVal val0).PlainList b := ho1.appendVal (t := v0) hc0
  let o1 := o.markAsg app
  let o2 := o1.appendVal val0
  let o3 := o2.appendVals vals
  let T1 : List CbCall := (if b then [CbCall.valid o1.name (o2.vals.map Val.snap)] else []) ++ m.trace
  let T2 : List CbCall := (if b then validTrace o2 vals else []) ++ T1
  let F3 : Frame := { f with cfg := (f.cfg.setOpt r o1).setLine (f.cfg.line + n1 + n2 + n3), opt := some r, state := .s2, numValues := 0 }
  let F4 : Frame := { F3 with cfg := (F3.cfg.setLine (F3.cfg.line + n0)).setOpt r o2, state := .s4, numValues := F3.numValues + 1 }
  let F5 : Frame := { F4 with cfg := (F4.cfg.setOpt r o3).setLine (F4.cfg.line + seqLines vs), numValues := F4.numValues + vs.length }
  have g3 : F3.cfg.getOpt r = some o1 := (getOpt_setLine _ _ r).trans (getOpt_setOpt _ r o _ hget)
  have g4 : F4.cfg.getOpt r = some o2 := getOpt_setOpt _ r o1 _ ((getOpt_setLine _ _ r).trans g3)
  have g5 : F5.cfg.getOpt r = some o3 := (getOpt_setLine _ _ r).trans (getOpt_setOpt _ r o2 _ g4)
  have hn3 : o3.name = o.name := congrArg OptInfo.name (appendVals_info o2 vals)
  let mk : Frame → List CbCall → PM := fun F T => { m with frames := F :: rest, trace := T }
  have e4 : pstep orc (mk F3 m.trace) (.str v0) n0 = mk F4 T1 :=
    pstep_list_value orc b (mk F3 m.trace) F3 rest v0 n0 r o1 val0 hrun rfl rfl rfl hcm g3 ho1 hc0 (fun hb => (hok hb).1)
  have e5 : parseToks orc (mk F4 T1) (flatSeq false vs) = mk F5 T2 :=
    list_tail_steps orc b vs vals (mk F4 T1) F4 rest r o2 hrun rfl rfl rfl hcm g4 ho2 hcs (fun hb => by subst hb; exact (hok rfl).2)
  have e6 : pstep orc (mk F5 T2) .rbrace n4 = _ :=
    pstep_close_list orc b (mk F5 T2) F5 rest n4 r o3 hrun rfl rfl rfl g5
      ((congrArg OptInfo.validCb (appendVals_info o2 vals)).trans ho2.validCb)
      (fun hb => by
        subst hb
        have hk : (mk F5 T2).k = m.k + (vals.length + 1) := by simp [mk, PM.k, T2, T1, validTrace_length]; omega
        rw [hk, hn3]; exact hokc rfl)
  rw [List.append_assoc, parseToks_append,
    list_head_steps orc m f rest name n1 app n2 n3 r o hrun hfr hst hnd hres hsil hget hty ho.list]
  simp only [flatSeq, List.cons_append, parseToks_cons, parseToks_append]
  rw [e4, e5, e6, hn3]
  simp only [parseToks_nil, mk, F5, F4, F3, T2, T1, o3, o2, o1, setLine_line, setLine_setLine, setOpt_setLine, setOpt_setOpt,
    Opt.appendVals, validTrace]
  cases b <;> simp [Nat.add_comm]

/-- **C01 (a list assignment, as one item).** At an item boundary, `name = { v1, …, vk }` or `name += { v1, …, vk }`
(k ≥ 1) for a name that resolves silently to a plain list option without callbacks whose value tokens all convert:
the machine ends at an item boundary, and the option holds - after `=` - exactly the k values the tokens denote, in
order, whatever it held before (defaults, earlier values), and - after `+=` - what it held before, defaults included,
followed by those k values.  Nothing else in the context changes; the line has advanced by all the tokens. -/
theorem C01_list_item (orc : Oracle) (m : PM) (f : Frame) (rest : List Frame) (name : Bytes) (n1 : Nat) (app : Bool) (n2 n3 : Nat)
    (c0 : Nat) (v0 : Bytes) (n0 : Nat) (vs : List (Nat × Bytes × Nat)) (n4 : Nat)
    (r : OptRef) (o : Opt) (val0 : Val) (vals : List Val)
    (hrun : m.status = .running) (hfr : m.frames = f :: rest) (hst : f.state = .s0)
    (hnd : noPendingDeprecated f) (hcm : f.comment = none)
    (hres : (getoptPath f.cfg name).ref = some r) (hsil : (getoptPath f.cfg name).diags = [])
    (hget : f.cfg.getOpt r = some o)
    (hty : o.ty = .int ∨ o.ty = .float ∨ o.ty = .bool ∨ o.ty = .str)
    (hpc : o.info.parseCb = false) (hvc : o.info.validCb = false) (hl : o.flags.list = true) (hfree : freeEvOpt o = [])
    (hc0 : convTok o.ty v0 = some val0) (hcs : convToks o.ty (vs.map (·.2.1)) = some vals) :
    parseToks orc m ([(.str name, n1), (asgTok app, n2), (.lbrace, n3)] ++ flatSeq true ((c0, v0, n0) :: vs) ++ [(.rbrace, n4)]) =
      { m with frames :=
          { f with cfg := (f.cfg.setOpt r ((o.markAsg app).appendVals (val0 :: vals))).setLine
                            (f.cfg.line + n1 + n2 + n3 + n0 + seqLines vs + n4),
                   opt := some r, state := .s0, numValues := vs.length + 1 } :: rest } :=
  list_item_steps orc false m f rest name n1 app n2 n3 c0 v0 n0 vs n4 r o val0 vals hrun hfr hst hnd hcm hres hsil hget
    ⟨hty, hpc, hvc, hl, hfree⟩ hc0 hcs nofun nofun

/-- **'=' replaces, '+=' appends (also to defaults).** What the option of `C01_list_item` holds afterwards. -/
theorem C01_list_item_values (o : Opt) (app : Bool) (val0 : Val) (vals : List Val) :
    ((o.markAsg app).appendVals (val0 :: vals)).vals = (if app then o.vals else []) ++ val0 :: vals := by
  rw [appendVals_vals]
  cases app <;> rfl

/-- **C01 (an empty list, as one item).** `name = {}` empties a plain list option - its declared defaults go too -,
`name += {}` leaves it exactly as it was (defaults included); either way the machine is back at an item boundary. -/
theorem C01_empty_list_item (orc : Oracle) (m : PM) (f : Frame) (rest : List Frame) (name : Bytes) (n1 : Nat) (app : Bool) (n2 n3 n4 : Nat)
    (r : OptRef) (o : Opt)
    (hrun : m.status = .running) (hfr : m.frames = f :: rest) (hst : f.state = .s0)
    (hnd : noPendingDeprecated f)
    (hres : (getoptPath f.cfg name).ref = some r) (hsil : (getoptPath f.cfg name).diags = [])
    (hget : f.cfg.getOpt r = some o) (hty : o.ty ≠ .sec ∧ o.ty ≠ .func)
    (hl : o.flags.list = true) (hfree : freeEvOpt o = []) :
    parseToks orc m [(.str name, n1), (asgTok app, n2), (.lbrace, n3), (.rbrace, n4)] =
      { m with frames :=
          { f with cfg := (f.cfg.setOpt r (if app then o.markAsg true else (freeValue (o.markAsg false)).1)).setLine (f.cfg.line + n1 + n2 + n3 + n4),
                   opt := some r, state := .s0, numValues := 0 } :: rest } := by
  let F : Frame := { f with cfg := (f.cfg.setOpt r (o.markAsg app)).setLine (f.cfg.line + n1 + n2 + n3), opt := some r, state := .s2,
                            numValues := 0 }
  rw [show [(Tok.str name, n1), (asgTok app, n2), (.lbrace, n3), (.rbrace, n4)] = [(.str name, n1), (asgTok app, n2), (.lbrace, n3)] ++ [(.rbrace, n4)]
        from rfl, parseToks_append, list_head_steps orc m f rest name n1 app n2 n3 r o hrun hfr hst hnd hres hsil hget hty hl, parseToks_cons,
    pstep_close_empty orc { m with frames := F :: rest } F rest n4 r (o.markAsg app) hrun rfl rfl rfl rfl
      ((getOpt_setLine _ _ r).trans (getOpt_setOpt _ r o _ hget)) hl ((freeEvOpt_setFlags o _).trans hfree)]
  cases app <;>
    simp only [F, parseToks_nil, show ∀ a, (o.markAsg a).flags.reset = !a from fun _ => rfl, setLine_line,
      setLine_setLine, setOpt_setLine, setOpt_setOpt, Bool.not_false, Bool.not_true, if_true, Bool.false_eq_true, if_false]

end Confuse
