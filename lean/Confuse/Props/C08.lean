import Confuse.Model.Globals
import Confuse.Driver
import Confuse.Lemmas.Path
/-!
# C08 — a parse depends only on its own input, not on earlier parses
-/
namespace Confuse

/-- from whatever scanner state, the outcome of a parse is `parseFp`, the history-free function all other theorems
are about -/
theorem C08_is_parseFp (g : ScanG) (orc : Oracle) (pe : PEnv) (c : Cfg) (text : Bytes) :
    (parseFpG g orc pe c text).1 = parseFp orc pe c text := by
  simp [parseFpG, parseFp, scanBegin, parseLoop]

/-- **C08 (independence).** Whatever state an earlier call left the scanner in — inside a string,
inside a comment, after a bad escape, with any include depth or buffer stack — the outcome of a parse
(return code, tree, diagnostics, callbacks) is the one obtained from the pristine state. -/
theorem C08_independent (g : ScanG) (orc : Oracle) (pe : PEnv) (c : Cfg) (text : Bytes) :
    (parseFpG g orc pe c text).1 = (parseFpG {} orc pe c text).1 :=
  (C08_is_parseFp g orc pe c text).trans (C08_is_parseFp {} orc pe c text).symm

/-- **C08 (what a parse leaves behind).** After any parse — accepted, or aborted anywhere — the
include stack pointer and the buffer stack are as they were on entry and the scratch buffer is
released; only the start condition may differ, and `C08_independent` shows it is never read. -/
theorem C08_clean (g : ScanG) (orc : Oracle) (pe : PEnv) (c : Cfg) (text : Bytes) :
    (parseFpG g orc pe c text).2.incDepth = g.incDepth ∧ (parseFpG g orc pe c text).2.bufDepth = g.bufDepth ∧
    (parseFpG g orc pe c text).2.qbuf = false := by
  simp [parseFpG, scanBegin, scanEnd]

/-- histories: any sequence of parses threads the globals; the last result does not depend on the prefix -/
def runHistory (orc : Oracle) (pe : PEnv) (g : ScanG) : List (Cfg × Bytes) → ScanG
  | [] => g
  | (c, t) :: rest => runHistory orc pe (parseFpG g orc pe c t).2 rest

theorem C08_history (orc : Oracle) (pe : PEnv) (hist : List (Cfg × Bytes)) (c : Cfg) (probe : Bytes) :
    (parseFpG (runHistory orc pe {} hist) orc pe c probe).1 = (parseFpG {} orc pe c probe).1 :=
  C08_independent _ orc pe c probe

/-- and the bookkeeping part of the globals is restored after every history -/
theorem C08_history_clean (orc : Oracle) (pe : PEnv) (hist : List (Cfg × Bytes)) :
    (runHistory orc pe {} hist).incDepth = 0 ∧ (runHistory orc pe {} hist).bufDepth = 0 ∧ (runHistory orc pe {} hist).qbuf = false := by
  suffices ∀ g : ScanG, g.incDepth = 0 → g.bufDepth = 0 → g.qbuf = false →
      (runHistory orc pe g hist).incDepth = 0 ∧ (runHistory orc pe g hist).bufDepth = 0 ∧ (runHistory orc pe g hist).qbuf = false from
    this {} rfl rfl rfl
  induction hist with
  | nil => intro g h1 h2 h3; exact ⟨h1, h2, h3⟩
  | cons e es ih =>
    intro g h1 h2 h3
    obtain ⟨c, t⟩ := e
    have := C08_clean g orc pe c t
    exact ih _ (by rw [this.1]; exact h1) (by rw [this.2.1]; exact h2) this.2.2

/-- **C08 (two live contexts never influence each other).** An operation addressed to one context
slot leaves every other slot exactly as it was. -/
theorem C08_frame (w : Driver.World) (i j : Nat) (x : Option Driver.Ctx) (h : i ≠ j) :
    Driver.getCtx (Driver.setCtx w i x) j = Driver.getCtx w j := by
  simp [Driver.getCtx, Driver.setCtx, listSet_get_ne _ _ _ _ h]

end Confuse
