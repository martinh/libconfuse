import Confuse.Props.C01A
/-!
# C14 — the callback log of a whole item in closed form

`C14_log_monotone` says the log only grows; here is what exactly one assignment adds to it.
-/
namespace Confuse

/-- `cfg_setopt` of an integer option that has a value-parsing callback, marked "replace": the callback is asked once,
with the token text; its answer is what is stored -/
theorem setopt_int_cb (orc : Oracle) (k : Nat) (ci : CfgInfo) (o : Opt) (v : Bytes)
    (hty : o.ty = .int) (hpc : o.info.parseCb = true) (hnl : o.flags.list = false) (hnm : o.flags.multi = false)
    (hfree : freeEvOpt o = []) :
    setopt orc k ci o.markReplace (some v) =
      (match orc k (CbCall.parse o.name (some v)) with
       | .int n => ⟨.mk o.info { o.flags with reset := false, modified := true } o.subs [.int n] o.comment, some 0, [], [CbCall.parse o.name (some v)]⟩
       | _ => ⟨o.markReplace, none, [.callback], [CbCall.parse o.name (some v)]⟩) := by
  have hb : o.markReplace.base = [] := Opt.base_of_reset rfl
  have hc := setoptConvert_int_cb orc k o.markReplace (some v) hty hpc
  rw [show o.markReplace.name = o.name from rfl] at hc
  cases h : orc k (CbCall.parse o.name (some v)) with
  | int n =>
    rw [h] at hc
    rw [setopt_scalar orc k ci _ _ (.int n) [.parse o.name (some v)] (.int n) hc rfl, hb,
      show freeEvOpt o.markReplace = [] from (freeEvOpt_setFlags o _).trans hfree]
    rfl
  | _ =>
    rw [h] at hc
    exact setopt_error _ _ _ _ _ ([.callback], [.parse o.name (some v)]) hc

theorem name_info (o : Opt) : o.name = o.info.name := rfl

/-- **C14 (the callback log of one assignment, in closed form).** `name = v` for an integer option with a value-parsing
and a validation callback, at an item boundary: the parse callback is invoked exactly once, first, with exactly the
token text `v`; if it refuses, the parse is rejected with nothing stored and nothing else invoked; otherwise the
value it produced is stored and the validation callback runs next, seeing exactly that value; its verdict decides
between going on (at an item boundary, the option holding the produced value) and rejection.  In every case the log
is the old log plus these one or two invocations, in this order. -/
theorem C14_assign_trace (orc : Oracle) (m : PM) (f : Frame) (rest : List Frame) (name v : Bytes) (n1 n2 n3 : Nat)
    (r : OptRef) (o : Opt)
    (hrun : m.status = .running) (hfr : m.frames = f :: rest) (hst : f.state = .s0)
    (hnd : noPendingDeprecated f) (hcm : f.comment = none)
    (hres : (getoptPath f.cfg name).ref = some r) (hsil : (getoptPath f.cfg name).diags = [])
    (hget : f.cfg.getOpt r = some o)
    (hty : o.ty = .int) (hpc : o.info.parseCb = true) (hvc : o.info.validCb = true)
    (hnl : o.flags.list = false) (hnm : o.flags.multi = false) (hfree : freeEvOpt o = []) :
    let res := parseToks orc m [(.str name, n1), (.eq, n2), (.str v, n3)]
    let pcall := CbCall.parse o.name (some v)
    (match orc m.k pcall with
     | .int n =>
       let vcall := CbCall.valid o.name [Snap.int n]
       res.trace = vcall :: pcall :: m.trace ∧
       (if orc (m.k + 1) vcall = .fail then res.status = .rejected
        else res.status = .running ∧
             ∃ f', res.frames = f' :: rest ∧ f'.state = .s0 ∧
               f'.cfg.getOpt r = some (.mk o.info { o.flags with reset := false, modified := true } o.subs [.int n] o.comment))
     | _ => res.trace = pcall :: m.trace ∧ res.status = .rejected) := by
  intro res pcall
  let F : Frame := { f with cfg := (f.cfg.setOpt r o.markReplace).setLine (f.cfg.line + n1 + n2 + n3), opt := some r, state := .s2 }
  have hres' : res = storeValue orc { m with frames := F :: rest } F rest v .s0 :=
    C01_assign_general orc m f rest name v n1 n2 n3 r o hrun hfr hst hnd hres hsil hget (by simp [hty]) hnl
  have g2 : F.cfg.getOpt r = some o.markReplace := (getOpt_setLine _ _ r).trans (getOpt_setOpt _ r o _ hget)
  have hset := setopt_int_cb orc m.k F.cfg.info o v hty hpc hnl hnm hfree
  rw [hres']
  cases ho : orc m.k pcall with
  | int n =>
    rw [show orc m.k (CbCall.parse o.name (some v)) = _ from ho] at hset
    dsimp only
    by_cases hv : orc (m.k + 1) (CbCall.valid o.name [Snap.int n]) = .fail
    · rw [if_pos hv]
      exact (storeValue_vetoed orc { m with frames := F :: rest } F rest v .s0 r _ _ 0 [] [pcall] rfl g2 hset hvc hv).symm
    · rw [if_neg hv, storeValue_go orc { m with frames := F :: rest } F rest v .s0 r _ _ 0 [] [pcall] rfl g2 hset (fun _ => hv)]
      refine ⟨by simp [hvc, Opt.name, Val.snap], hrun, _, rfl, rfl, ?_⟩
      rw [inheritComment_none _ (show ({ F with cfg := F.cfg.setOpt r _ } : Frame).comment = none from hcm)]
      exact getOpt_setOpt _ r _ _ g2
  | _ =>
    rw [show orc m.k (CbCall.parse o.name (some v)) = _ from ho] at hset
    rw [storeValue_refused orc { m with frames := F :: rest } F rest v .s0 r _ _ _ _ rfl g2 hset]
    exact ⟨by simp [pcall], reject_status _ _ _⟩

end Confuse
