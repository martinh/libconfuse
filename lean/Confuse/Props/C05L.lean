import Confuse.Props.C05B
import Confuse.Props.C02
import Confuse.Lemmas.Loop
/-!
# C05 — the print / parse round trip of a flat configuration, byte level

`C05_flat_roundtrip`: bytes written by the print model, scanned by the scanner model, fed through the parse loop and the
token machine into any context with the same declarations: accepted, and every option holds the printed values.
Ingredients: `pstep_pending` (only the `)` of a call can ask for an include), `loop_steps` (the loop over one source
takes exactly the scanned tokens), `lex_opts` (C05B), `flat_steps` (C05F).
-/
namespace Confuse

/-- **the parse loop over one source takes exactly the scanned tokens**: while the scanner finds tokens that carry on
and the machine keeps running, `n` rounds of the loop are the token machine over those `n` tokens, the source
advanced to what the scanner left -/
theorem loop_steps (orc : Oracle) (pe : PEnv) {inp : Bytes} {ts : List (Tok × Nat)} {out : Bytes}
    (h : LexSteps pe.env inp ts out) :
    (∀ t ∈ ts, t.1 ≠ .rparen) →
    ∀ (fuel : Nat) (m : PM) (src : Src), m.status = .running → m.srcs = [src] → src.rest = inp → m.pendingInclude = none →
    (parseToks orc m ts).status = .running →
    parseLoopFrom orc pe (fuel + ts.length) .initial m =
      parseLoopFrom orc pe fuel .initial (setSrcs (parseToks orc m ts) [{ src with rest := out }]) := by
  induction h with
  | nil inp =>
    intro _ fuel m src _ hs hr _ _
    congr 1
    cases m; cases src
    subst hs; subst hr; rfl
  | cons inp t nl rest ts out hl hg hrest ih =>
    intro hnp fuel m src hrun hs hr hpend hfin
    have hne : (lexInitial pe.env 0 src.rest).tok ≠ .eof := by
      rw [hr, hl]; intro e; simp only at e; subst e; simp [Tok.goesOn] at hg
    have e := C13_loop_reads_scan orc pe (fuel + ts.length) m src [] hrun hs hne
    have hlen : fuel + ((t, nl) :: ts).length = fuel + ts.length + 1 := rfl
    rw [hlen, e, hr, hl]
    have hsr : ({ m with srcs := [{ src with rest := rest }] } : PM) = setSrcs m [{ src with rest := rest }] := rfl
    rw [hsr, pstep_srcs]
    have hp1 : (pstep orc m t nl).pendingInclude = none := by
      rw [pstep_pending orc m t nl (hnp (t, nl) (by simp))]; exact hpend
    rw [afterTok_idle pe (setSrcs (pstep orc m t nl) [{ src with rest := rest }]) (.inl hp1)]
    rw [parseToks_cons] at hfin ⊢
    -- a stopped machine stays as it is, and the run ends running
    have hrun1 : (pstep orc m t nl).status = .running :=
      Decidable.byContradiction fun hc => hc (by rwa [parseToks_stopped orc _ ts hc] at hfin)
    have := ih (fun x hx => hnp x (by simp [hx])) fuel (setSrcs (pstep orc m t nl) [{ src with rest := rest }]) { src with rest := rest }
      hrun1 rfl rfl hp1 (by rw [parseToks_setSrcs]; exact hfin)
    rw [this, parseToks_setSrcs]
    rfl

theorem lexSteps_length (env : Env) {inp : Bytes} {ts : List (Tok × Nat)} {out : Bytes} (h : LexSteps env inp ts out) :
    ts.length + out.length ≤ inp.length := by
  induction h with
  | nil _ => simp
  | cons inp t nl rest ts out hl hg _ ih =>
    have : rest.length + 1 ≤ inp.length := by
      cases inp with
      | nil => simp [lexInitial] at hl; rw [← hl.1] at hg; simp [Tok.goesOn] at hg
      | cons c cs =>
        have := lex_progress env cs c 0
        rw [hl] at this
        simpa using this
    simp only [List.length_cons]
    omega

theorem no_rparen_cons {t : Tok} {n : Nat} {ts : List (Tok × Nat)} (h : t ≠ .rparen) (hs : ∀ x ∈ ts, x.1 ≠ .rparen) :
    ∀ x ∈ (t, n) :: ts, x.1 ≠ .rparen := List.forall_mem_cons.2 ⟨h, hs⟩

theorem flatSeq_no_rparen : ∀ (b : Bool) (l : List (Nat × Bytes × Nat)), ∀ x ∈ flatSeq b l, x.1 ≠ Tok.rparen
  | _, [] => List.forall_mem_nil _
  | true, (_, _, _) :: l => no_rparen_cons nofun (flatSeq_no_rparen false l)
  | false, (_, _, _) :: l => no_rparen_cons nofun (no_rparen_cons nofun (flatSeq_no_rparen false l))

theorem optToks_no_rparen {o : Opt} {ts : List (Tok × Nat)} (h : OptToks o ts) : ∀ t ∈ ts, t.1 ≠ .rparen := by
  cases h with
  | scalar => exact no_rparen_cons nofun (no_rparen_cons nofun (no_rparen_cons nofun (List.forall_mem_nil _)))
  | listNil => exact no_rparen_cons nofun (no_rparen_cons nofun (no_rparen_cons nofun (no_rparen_cons nofun (List.forall_mem_nil _))))
  | listCons => exact no_rparen_cons nofun (no_rparen_cons nofun (no_rparen_cons nofun
      (List.forall_mem_append.2 ⟨flatSeq_no_rparen true _, no_rparen_cons nofun (List.forall_mem_nil _)⟩)))

theorem flatToks_no_rparen {os : List Opt} {ts : List (Tok × Nat)} (h : FlatToks os ts) : ∀ t ∈ ts, t.1 ≠ .rparen := by
  induction h with
  | nil => exact List.forall_mem_nil _
  | cons o os ts1 tss h1 _ ih => exact List.forall_mem_append.2 ⟨optToks_no_rparen h1, ih⟩

theorem pstep_eof_top (orc : Oracle) (m : PM) (f : Frame) (nl : Nat)
    (hrun : m.status = .running) (hfr : m.frames = [f]) (hst : f.state = .s0) (hlev : f.level = 0) (hnd : noPendingDeprecated f) :
    pstep orc m .eof nl = { m with frames := [{ f with cfg := f.cfg.setLine (f.cfg.line + nl) }], status := .accepted } := by
  rw [pstep_eof orc m f [] nl hrun hfr, if_neg (by simp [hst, hlev]), handleDeprecated_id _ _ (noPending_addLine f nl hnd)]
  rfl

/-- **from "the text scans to these tokens and the tokens drive the machine there" to "the parse is accepted".** The tail
of every byte-level round trip: the parse loop takes exactly the scanned tokens, the end of the input at the top-level
item boundary is accepted, and the result is the top frame's tree. -/
theorem accept_of_steps (orc : Oracle) (pe : PEnv) (c0 : Cfg) (text : Bytes) (ts : List (Tok × Nat)) (k' : Nat) (f' : Frame) (md : Nat)
    (hlex : LexSteps pe.env text ts (List.replicate k' c_nl))
    (hnp : ∀ t ∈ ts, t.1 ≠ .rparen)
    (e1 : parseToks orc (startPM ((c0.setFilename (some bufName)).setLine 1) text 0) ts =
            { startPM ((c0.setFilename (some bufName)).setLine 1) text 0 with frames := [f'], maxDepth := md })
    (hat' : AtItem f') (hlev' : f'.level = 0) :
    (parseBuf orc pe c0 text).rc = 0 ∧ (parseBuf orc pe c0 text).cfg.opts = f'.cfg.opts ∧
    (parseBuf orc pe c0 text).cfg.info.pff = f'.cfg.info.pff := by
  let c1 := (c0.setFilename (some bufName)).setLine 1
  let m0 : PM := startPM c1 text 0
  have hlen := lexSteps_length pe.env hlex
  have hfin : (parseToks orc m0 ts).status = .running := by rw [e1]; rfl
  obtain ⟨F, hF⟩ : ∃ F, fuelFor pe text = F + 1 + ts.length := ⟨fuelFor pe text - 1 - ts.length, by unfold fuelFor; omega⟩
  have hloop := loop_steps orc pe hlex hnp (F + 1) m0 { rest := text } rfl rfl rfl rfl hfin
  let m1 : PM := setSrcs (parseToks orc m0 ts) [{ rest := List.replicate k' c_nl }]
  have heof : (lexInitial pe.env 0 (List.replicate k' c_nl)).tok = .eof := by
    rw [← List.append_nil (List.replicate k' c_nl), lex_lead]; rfl
  have hround := C13_loop_reads_eof orc pe F m1 { rest := List.replicate k' c_nl } (by show (parseToks orc m0 ts).status = _; exact hfin) rfl heof
  have hend : parseLoop orc pe (fuelFor pe text) m0 =
      { setSrcs { m0 with frames := [f'], maxDepth := md } [{ rest := (lexInitial pe.env 0 (List.replicate k' c_nl)).rest }] with
        frames := [{ f' with cfg := f'.cfg.setLine (f'.cfg.line + (lexInitial pe.env 0 (List.replicate k' c_nl)).nl) }],
        status := .accepted } := by
    unfold parseLoop
    rw [hF, hloop, hround]
    simp only [m1]
    rw [e1]
    refine (congrArg (fun M => parseLoopFrom orc pe F .initial (afterTok pe M))
      (pstep_eof_top orc (setSrcs { m0 with frames := [f'], maxDepth := md } _) f' _ rfl rfl hat'.st hlev' hat'.nd)).trans ?_
    exact loop_stopped orc pe F _ (fun h => nomatch h)
  unfold parseBuf parseFp
  rw [show parseLoop orc pe (fuelFor pe text) (startPM ((c0.setFilename (some bufName)).setLine 1) text 0) = _ from hend]
  exact ⟨rfl, rfl, by cases f'.cfg; rfl⟩

/-- **C05 (flat configurations, byte level).** Print a flat configuration `c` - top-level options only, each an
integer, boolean or string option, scalar (holding one value) or list (any number of values), without callbacks,
annotations or print filter, cells in range / non-NULL / NUL-free - and parse the printed text with `cfg_parse_buf` into
ANY context `c0` with the same declarations (same names, types and list flags in the same order; plain, i.e. no
callbacks, not deprecated; names distinct under `c0`'s case rule), whatever `c0`'s options hold: the parse is
accepted and every option of the result holds exactly the value sequence of its counterpart in `c`.  Bytes, scanner,
token machine and parse loop are all inside the statement. -/
theorem C05_flat_roundtrip (orc : Oracle) (pe : PEnv) (c c0 : Cfg)
    (hpff : c.info.pff = none) (hpr : ∀ o ∈ c.opts, Printable o)
    (hal : All2 Aligned c.opts c0.opts)
    (hpw : List.Pairwise (fun a b => titleEq c0.flags.nocase a.name b.name = false) c.opts) :
    (parseBuf orc pe c0 (cfgPrint c)).rc = 0 ∧
    All2 (fun r o => r.vals = o.vals) (parseBuf orc pe c0 (cfgPrint c)).cfg.opts c.opts ∧
    All2 (fun r o0 => r.info = o0.info ∧ r.flags.list = o0.flags.list ∧ r.comment = o0.comment)
      (parseBuf orc pe c0 (cfgPrint c)).cfg.opts c0.opts ∧
    (parseBuf orc pe c0 (cfgPrint c)).cfg.info.pff = c0.info.pff := by
  have htext := cfgPrint_nofilter c hpff
  obtain ⟨ts, k', hft, hlex⟩ := lex_opts pe.env c.opts 0 [] hpr
  simp only [List.replicate_zero, List.nil_append, List.append_nil] at hlex
  let c1 := (c0.setFilename (some bufName)).setLine 1
  have hopts1 : c1.opts = [] ++ c0.opts := by cases c0; rfl
  have hfl1 : c1.flags = c0.flags := by cases c0; rfl
  let f0 : Frame := { cfg := c1 }
  let m0 : PM := startPM c1 (cfgPrint c) 0
  obtain ⟨f', done, e1, hat', hlev', _hbk', _hot', hopts', hfl', hpf', hvals, hdecl⟩ :=
    flat_steps orc c.opts c0.opts ts m0 f0 [] [] hft hal rfl rfl (.fresh c1 0 none) hopts1
      (by intro p hp; simp at hp) (by rw [hfl1]; exact hpw)
  rw [← htext] at hlex
  obtain ⟨hrc, ho, hp⟩ := accept_of_steps orc pe c0 (cfgPrint c) ts k' f' m0.maxDepth hlex (flatToks_no_rparen hft) e1 hat' hlev'
  rw [ho, hp, hopts', hpf']
  exact ⟨hrc, hvals, hdecl, by cases c0; rfl⟩

theorem printOpt_congr (r o : Opt) (hp : Printable o) (hname : r.name = o.name) (hty : r.ty = o.ty)
    (hpc : r.info.printCb = false) (hl : r.flags.list = o.flags.list) (hv : r.vals = o.vals) (hc : r.comment = none) :
    printOpt none 0 r = printOpt none 0 o := by
  have hpr : Printable r :=
    ⟨by rw [hty]; exact hp.ty, hpc, hc, by rw [hname]; exact hp.name0, by rw [hv, hty]; exact hp.cells,
     by intro h; rw [hv]; exact hp.scalar1 (by rw [← hl]; exact h)⟩
  by_cases hlist : o.flags.list = true
  · rw [print_list o hp hlist, print_list r hpr (by rw [hl]; exact hlist), hname, hty, hv]
  · have hl' : o.flags.list = false := by simpa using hlist
    obtain ⟨v, hvv⟩ := hp.scalar1 hl'
    rw [print_scalar o v hp hl' hvv, print_scalar r v hpr (by rw [hl]; exact hl') (by rw [hv]; exact hvv), hname, hty]

/-- three lists related position by position -/
theorem printOpts_congr : ∀ (done os os0 : List Opt),
    All2 (fun r o => r.vals = o.vals) done os →
    All2 (fun r o0 => r.info = o0.info ∧ r.flags.list = o0.flags.list ∧ r.comment = o0.comment) done os0 →
    All2 Aligned os os0 → (∀ o ∈ os, Printable o) → (∀ o0 ∈ os0, o0.comment = none ∧ o0.info.printCb = false) →
    printOpts none 0 done = printOpts none 0 os := by
  intro done
  induction done with
  | nil => intro os os0 h1 _ _ _ _; cases h1; rfl
  | cons r rs ih =>
    intro os os0 h1 h2 h3 hp hf
    cases h1 with
    | cons hv hvs =>
      rename_i o os'
      cases h2 with
      | cons hd hds =>
        rename_i o0 os0'
        cases h3 with
        | cons ha has =>
          obtain ⟨hname, hty, hlist, _⟩ := ha
          obtain ⟨hi, hl, hc⟩ := hd
          have hf0 := hf o0 (by simp)
          have e := printOpt_congr r o (hp o (by simp))
            (by show r.info.name = o.name; rw [hi]; exact hname)
            (by show r.info.ty = o.ty; rw [hi]; exact hty)
            (by rw [hi]; exact hf0.2) (by rw [hl, hlist]) hv (by rw [hc]; exact hf0.1)
          rw [printOpts_cons, printOpts_cons, e, ih os' os0' hvs hds has (fun x hx => hp x (by simp [hx])) (fun x hx => hf x (by simp [hx]))]

/-- **C05 (flat configurations: printing the re-parsed configuration reproduces the first text).** With the target a
context of the same declarations that carries no annotations, print callbacks or print filter (as `cfg_init` makes it),
the text printed for the re-parsed configuration is, byte for byte, the text that was parsed - so a further
parse-and-print cycle changes nothing either. -/
theorem C05_flat_fixpoint (orc : Oracle) (pe : PEnv) (c c0 : Cfg)
    (hpff : c.info.pff = none) (hpr : ∀ o ∈ c.opts, Printable o)
    (hal : All2 Aligned c.opts c0.opts)
    (hpw : List.Pairwise (fun a b => titleEq c0.flags.nocase a.name b.name = false) c.opts)
    (hpff0 : c0.info.pff = none) (hfresh : ∀ o0 ∈ c0.opts, o0.comment = none ∧ o0.info.printCb = false) :
    cfgPrint (parseBuf orc pe c0 (cfgPrint c)).cfg = cfgPrint c := by
  obtain ⟨_, hv, hd, hp⟩ := C05_flat_roundtrip orc pe c c0 hpff hpr hal hpw
  rw [cfgPrint_nofilter (parseBuf orc pe c0 (cfgPrint c)).cfg (by rw [hp]; exact hpff0), printOpts_congr _ _ _ hv hd hal hpr hfresh]
  exact (cfgPrint_nofilter c hpff).symm

/-! Non-vacuity: an ordinary flat configuration meets the hypotheses (an integer, a string with a space and a quote, an
integer list; the target context holds other values). -/
private def exI : Opt := .mk { name := [105], ty := .int } {} [] [.int 42] none
private def exS : Opt := .mk { name := [115], ty := .str } {} [] [.str (some [97, 32, 34, 98])] none
private def exL : Opt := .mk { name := [108], ty := .int } { list := true } [] [.int 1, .int (-2)] none
private def exC : Cfg := .mk { name := [114] } [exI, exS, exL]
private def exI0 : Opt := .mk { name := [105], ty := .int } { reset := true } [] [.int 7] none
private def exS0 : Opt := .mk { name := [115], ty := .str } { reset := true } [] [.str (some [100])] none
private def exL0 : Opt := .mk { name := [108], ty := .int } { list := true, reset := true } [] [.int 9] none
private def exC0 : Cfg := .mk { name := [114] } [exI0, exS0, exL0]

private theorem exPlain (o : Opt) (hty : o.ty = .int ∨ o.ty = .bool ∨ o.ty = .str) (h1 : o.info.parseCb = false) (h2 : o.info.validCb = false)
    (h3 : o.flags.deprecated = false) (h4 : o.flags.multi = false) (h5 : plainName o.name) (h6 : freeEvOpt o = []) : PlainDecl o :=
  ⟨hty, h1, h2, h3, h4, h5, h6⟩

example : exC.info.pff = none ∧ (∀ o ∈ exC.opts, Printable o) ∧ All2 Aligned exC.opts exC0.opts ∧
    List.Pairwise (fun a b => titleEq exC0.flags.nocase a.name b.name = false) exC.opts := by
  refine ⟨rfl, ?_, ?_, by decide⟩
  · intro o ho
    simp only [exC, Cfg.opts, List.mem_cons, List.not_mem_nil, or_false] at ho
    rcases ho with rfl | rfl | rfl
    · exact ⟨Or.inl rfl, rfl, rfl, by decide, by decide, fun _ => ⟨_, rfl⟩⟩
    · exact ⟨Or.inr (Or.inr rfl), rfl, rfl, by decide, by decide, fun _ => ⟨_, rfl⟩⟩
    · exact ⟨Or.inl rfl, rfl, rfl, by decide, by decide, fun h => by cases h⟩
  · exact All2.cons ⟨rfl, rfl, rfl, exPlain _ (Or.inl rfl) rfl rfl rfl rfl ⟨by decide, by decide⟩ rfl⟩
      (All2.cons ⟨rfl, rfl, rfl, exPlain _ (Or.inr (Or.inr rfl)) rfl rfl rfl rfl ⟨by decide, by decide⟩ rfl⟩
        (All2.cons ⟨rfl, rfl, rfl, exPlain _ (Or.inl rfl) rfl rfl rfl rfl ⟨by decide, by decide⟩ rfl⟩ All2.nil))

end Confuse
