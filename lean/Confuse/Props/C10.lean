import Confuse.Props.C09
/-!
# C10 — a rejected update leaves the option exactly as it was
-/
namespace Confuse

theorem setmultiLoop_sameDecl (orc : Oracle) (k : Nat) (ci : CfgInfo) (vs : List (Option Bytes)) :
    ∀ (o : Opt) (ds : List DiagCls) (cs : List CbCall), SameDecl o (setmultiLoop orc k ci o vs ds cs).1 := by
  induction vs with
  | nil => intro o ds cs; simp [setmultiLoop, SameDecl]
  | cons v vs ih =>
    intro o ds cs
    simp only [setmultiLoop]
    have h1 := setopt_sameDecl orc (k + cs.length) ci o v
    split
    · exact h1
    · have h2 := ih (setopt orc (k + cs.length) ci o v).opt (ds ++ (setopt orc (k + cs.length) ci o v).diags) (cs ++ (setopt orc (k + cs.length) ci o v).calls)
      exact ⟨h2.1.trans h1.1, h2.2.1.trans h1.2.1, h2.2.2.trans h1.2.2⟩

theorem Flags.restore {a b : Flags} (h : a.base = b.base) : { a with reset := b.reset, modified := b.modified } = b := by
  cases a; cases b
  simp only [Flags.base, Flags.mk.injEq] at h
  simp_all

/-- **C10 (bulk set).** If `cfg_setmulti` reports failure — whichever element was the unconvertible
one, first, middle or last — the option record it returns is *equal* to the one it was given:
values, count, order, annotation, RESET and MODIFIED bits, everything. -/
theorem C10_setmulti_refused (orc : Oracle) (k : Nat) (ci : CfgInfo) (o : Opt) (values : List (Option Bytes))
    (h : (setmulti orc k ci o values).2.1 = false) :
    (setmulti orc k ci o values).1 = o := by
  unfold setmulti at h ⊢
  by_cases he : values.isEmpty = true
  · rw [if_pos he]
  · rw [if_neg he] at h ⊢
    dsimp only at h ⊢
    -- the loop ran on `o` emptied; on failure values, annotation and the two bits are put back
    have hs : SameDecl o _ := setmultiLoop_sameDecl orc k ci values (Opt.mk o.info o.flags o.subs [] none) [] []
    generalize setmultiLoop orc k ci (Opt.mk o.info o.flags o.subs [] none) values [] [] = r at hs h ⊢
    obtain ⟨o1, ok, ds, cs⟩ := r
    cases ok with
    | true => cases h
    | false =>
      obtain ⟨h1, h2, h3⟩ := hs
      show Opt.mk o1.info _ o1.subs o.vals o.comment = o
      rw [h1, h2, Flags.restore h3]
      cases o; rfl

/-- **C10 (set-from-text).** `cfg_setopt` with unconvertible text returns the option it was given. -/
theorem C10_setopt_refused (orc : Oracle) (k : Nat) (ci : CfgInfo) (o : Opt) (v : Option Bytes) (ds : List DiagCls) (cs : List CbCall)
    (h : setoptConvert orc k o v = .error (ds, cs)) :
    (setopt orc k ci o v).opt = o ∧ (setopt orc k ci o v).res = none := by
  rw [setopt_error _ _ _ _ _ _ h]; exact ⟨rfl, rfl⟩

/-- **C10 (veto).** A by-name setter vetoed by the pre-set validation callback changes nothing. -/
theorem C10_veto (orc : Oracle) (k : Nat) (c : Cfg) (path : Bytes) (ty : Ty) (v : Val) (i : Nat) (r : OptRef) (o : Opt)
    (hr : (getoptPath c path).ref = some r) (ho : c.getOpt r = some o) (hcb : o.info.valid2Cb = true) (hty : ty ≠ .bool)
    (hveto : ∀ call, orc k call = .fail) :
    (apiSetn orc k c path ty v i true).cfg = c ∧ (apiSetn orc k c path ty v i true).rc = -1 := by
  unfold apiSetn
  simp [hr, ho, hcb, hveto]

/-- **C10 (wrong type / illegal index).** -/
theorem C10_type_or_index_refused (c : Cfg) (r : OptRef) (o : Opt) (ty : Ty) (v : Val) (i : Nat) (ds : List DiagCls)
    (ho : c.getOpt r = some o)
    (hbad : o.ty ≠ ty ∨ (i ≠ 0 ∧ o.flags.list = false ∧ o.flags.multi = false)) :
    (modOpt c r (optSetn ty v i) ds).rc = -1 ∧ ∃ o', (modOpt c r (optSetn ty v i) ds).cfg = c.setOpt r o' ∧ o' = o := by
  unfold modOpt
  simp only [ho]
  rcases hbad with h | ⟨h1, h2, h3⟩
  · simp [C09_wrong_type_refused ty o v i h]
  · by_cases ht : o.ty = ty
    · simp [optSetn, ht, C09_scalar_index_refused o v i h1 h2 h3]
    · simp [C09_wrong_type_refused ty o v i ht]

end Confuse
