import Confuse.Lemmas.Parser
import Confuse.Lemmas.Path
import Confuse.Lemmas.Span
/-!
# C15 — comments are transparent; annotations stick to the next option
-/
namespace Confuse

/-- **C15 (one step, any state but 0).** A comment token leaves the whole machine — every frame,
the logs, the pending temporaries — exactly as it was. -/
theorem C15_step_other (orc : Oracle) (m : PM) (v : Bytes)
    (h : ∀ f rest, m.frames = f :: rest → f.state ≠ .s0) :
    pstep orc m (.comment v) 0 = m := by
  refine pstep_cases (Q := (· = m)) orc m _ 0 (fun _ => rfl) (fun f rest hrun hfr => ?_)
  rw [← pstep_top orc m f rest _ 0 hrun hfr, pstep_comment_skip orc m f rest v 0 hrun hfr (h f rest hfr), addLine_zero]
  exact setFrames_self m _ hfr

theorem pstep_s0_comment (orc : Oracle) (m : PM) (f : Frame) (rest : List Frame) (v : Bytes)
    (hrun : m.status = .running) (hfr : m.frames = f :: rest) (hs : f.state = .s0) (hdep : noPendingDeprecated f) :
    pstep orc m (.comment v) 0 =
      if f.cfg.flags.comments then { m with frames := { f with comment := some v } :: rest } else { m with frames := f :: rest } := by
  rw [pstep_running orc m f rest _ 0 hrun hfr rfl (Or.inr hs), addLine_zero, show stepFn f.state = step_s0 by rw [hs]; rfl]
  simp only [step_s0]
  rw [handleDeprecated_id _ f hdep]

/-- **C15 (one step, state 0, annotation support off).** -/
theorem C15_step_s0_off (orc : Oracle) (m : PM) (f : Frame) (rest : List Frame) (v : Bytes)
    (hfr : m.frames = f :: rest) (hs : f.state = .s0) (hoff : f.cfg.flags.comments = false)
    (hdep : noPendingDeprecated f) :
    pstep orc m (.comment v) 0 = m := by
  by_cases hrun : m.status = .running
  · rw [pstep_s0_comment orc m f rest v hrun hfr hs hdep, hoff]
    exact setFrames_self m _ hfr
  · exact pstep_stopped orc m _ 0 hrun

/-- **C15 (one step, state 0, annotation support on).** Only the pending-annotation slot of the
current frame changes. -/
theorem C15_step_s0_on (orc : Oracle) (m : PM) (f : Frame) (rest : List Frame) (v : Bytes)
    (hrun : m.status = .running) (hfr : m.frames = f :: rest) (hs : f.state = .s0) (hon : f.cfg.flags.comments = true)
    (hdep : noPendingDeprecated f) :
    pstep orc m (.comment v) 0 = { m with frames := { f with comment := some v } :: rest } := by
  rw [pstep_s0_comment orc m f rest v hrun hfr hs hdep, hon]; rfl

def CommentNoop (m : PM) : Prop :=
  ∀ f rest, m.frames = f :: rest → f.state = .s0 → f.cfg.flags.comments = false ∧ noPendingDeprecated f

/-- **C15 (transparency, annotation support off).** Inserting a comment token between any two
tokens of any token list — accepted or rejected, at any nesting depth, inside lists, after `=`,
between a name or title and `{`, inside call arguments — does not change the final machine:
same acceptance, same tree, same diagnostics. -/
theorem C15_insert (orc : Oracle) (m : PM) (ts1 ts2 : List (Tok × Nat)) (v : Bytes)
    (h : CommentNoop (parseToks orc m ts1)) :
    parseToks orc m (ts1 ++ (.comment v, 0) :: ts2) = parseToks orc m (ts1 ++ ts2) := by
  have step : pstep orc (parseToks orc m ts1) (.comment v) 0 = parseToks orc m ts1 := by
    generalize parseToks orc m ts1 = m1 at h
    by_cases hs : ∃ f rest, m1.frames = f :: rest ∧ f.state = .s0
    · obtain ⟨f, rest, hfr, hs⟩ := hs
      exact C15_step_s0_off orc m1 f rest v hfr hs (h f rest hfr hs).1 (h f rest hfr hs).2
    · exact C15_step_other orc m1 v fun f rest hfr hs0 => hs ⟨f, rest, hfr, hs0⟩
  rw [parseToks_append, parseToks_append, parseToks_cons, step]

/-- **C15 (white space).** Blanks and newlines in front of a token change nothing but the line count. -/
theorem C15_ws (env : Env) (ws inp : Bytes) (nl : Nat) (h : ∀ c ∈ ws, c = c_sp ∨ c = c_tab ∨ c = c_nl) :
    lexInitial env nl (ws ++ inp) = lexInitial env (nl + ws.count c_nl) inp := by
  induction ws generalizing nl with
  | nil => simp
  | cons c cs ih =>
    have hc := h c (by simp)
    have hcs : ∀ x ∈ cs, x = c_sp ∨ x = c_tab ∨ x = c_nl := fun x hx => h x (by simp [hx])
    rcases hc with rfl | rfl | rfl
    · simp [lexInitial, ih _ hcs]
    · simp [lexInitial, ih _ hcs]
    · simp [lexInitial, ih _ hcs, Nat.add_assoc, Nat.add_comm 1]

/-- **C15 (a comment's bytes in front of a token).** `# text` up to the end of the line scans as one
comment token and leaves the rest of the input untouched. -/
theorem C15_line_comment_token (env : Env) (text rest : Bytes) (nl : Nat) (h : ∀ c ∈ text, c ≠ c_nl) :
    lexInitial env nl (c_hash :: (text ++ c_nl :: rest)) =
      ⟨.comment (trimWs (cstr ((c_hash :: text).dropWhile (· == c_hash)))), nl, c_nl :: rest⟩ := by
  have := span_append (p := (· != c_nl)) (a := c_hash :: text) rest
    (List.all_eq_true.2 fun c hc => bne_iff_ne.2 (by
      rcases List.mem_cons.1 hc with rfl | hc
      · decide
      · exact h c hc)) (bne_self_eq_false c_nl)
  simp only [List.cons_append] at this
  simp [lexInitial, lineComment, this.1, this.2]

/-- **C15 (annotation).** With a comment pending, storing a value hands the comment — as scanned,
i.e. trimmed — to the option as its annotation and clears the slot. -/
theorem C15_annotation_attach (f : Frame) (r : OptRef) (o : Opt) (c : Bytes)
    (hc : f.comment = some c) (hr : f.opt = some r) (ho : f.cfg.getOpt r = some o) :
    (inheritComment f).comment = none ∧
    ∃ o', (inheritComment f).cfg.getOpt r = some o' ∧ o'.comment = some c ∧ o'.flags.comments = true ∧ o'.vals = o.vals := by
  unfold inheritComment
  simp only [hc, hr, ho]
  refine ⟨by simp, ?_⟩
  exact ⟨_, getOpt_setOpt f.cfg r o _ ho, rfl, rfl, rfl⟩

end Confuse
