import Confuse.Props.C05F
import Confuse.Props.C05N
import Confuse.Props.C03
import Confuse.Props.C15
import Confuse.Props.C19
/-!
# C05 — the printed text of a flat configuration scans to the tokens of its options (byte level)
-/
namespace Confuse

def Tok.goesOn : Tok → Bool
  | .eof => false
  | .err _ => false
  | _ => true

/-- repeated scanner calls (each started with a line count of 0, as the parse loop does): the tokens found, and what is
left of the input -/
inductive LexSteps (env : Env) : Bytes → List (Tok × Nat) → Bytes → Prop
  | nil (inp : Bytes) : LexSteps env inp [] inp
  | cons (inp : Bytes) (t : Tok) (nl : Nat) (rest : Bytes) (ts : List (Tok × Nat)) (out : Bytes) :
      lexInitial env 0 inp = ⟨t, nl, rest⟩ → t.goesOn = true → LexSteps env rest ts out → LexSteps env inp ((t, nl) :: ts) out

theorem LexSteps.append {env : Env} {a b c : Bytes} {t1 t2 : List (Tok × Nat)} (h1 : LexSteps env a t1 b) (h2 : LexSteps env b t2 c) :
    LexSteps env a (t1 ++ t2) c := by
  induction h1 with
  | nil _ => exact h2
  | cons inp t nl rest ts out hl hg _ ih => exact LexSteps.cons inp t nl rest _ _ hl hg (ih h2)

theorem LexSteps.one {env : Env} {inp rest : Bytes} {t : Tok} {nl : Nat} (h : lexInitial env 0 inp = ⟨t, nl, rest⟩) (hg : t.goesOn = true) :
    LexSteps env inp [(t, nl)] rest := LexSteps.cons inp t nl rest [] rest h hg (LexSteps.nil rest)


theorem decDigits_word (n : Nat) : ∃ c cs, decDigits n = c :: cs ∧ isWordByte c = true ∧ cs.all isWordByte = true ∧
    c ≠ c_slash ∧ c ≠ c_dollar ∧ (∀ x ∈ c :: cs, x ≠ 0) := by
  obtain ⟨h1, _, c, cs, h3, _, _, _⟩ := decDigits_spec n
  have hall : ∀ x ∈ decDigits n, isDec x = true := by
    intro x hx
    have : digitVal x < 10 := by
      simp only [Spec.allDigits, List.all_eq_true, decide_eq_true_eq] at h1
      exact h1 x hx
    exact (digitVal_lt10 x).mp this
  have hw : ∀ x, isDec x = true → isWordByte x = true ∧ x ≠ c_slash ∧ x ≠ c_dollar ∧ x ≠ 0 := by
    intro x hx
    simp only [isDec, Bool.and_eq_true, decide_eq_true_eq] at hx
    refine ⟨?_, by omega, by omega, by omega⟩
    simp only [isWordByte, Bool.not_eq_true', Bool.or_eq_false_iff, beq_eq_false_iff_ne, ne_eq]
    omega
  rw [h3] at hall
  refine ⟨c, cs, h3, (hw c (hall c (by simp))).1, ?_, (hw c (hall c (by simp))).2.1, (hw c (hall c (by simp))).2.2.1, ?_⟩
  · rw [List.all_eq_true]; intro x hx; exact (hw x (hall x (by simp [hx]))).1
  · intro x hx; exact (hw x (hall x hx)).2.2.2

theorem lex_word (env : Env) (c : Nat) (cs : Bytes) (d : Nat) (rest : Bytes) (nl : Nat)
    (hc : isWordByte c = true) (hcs : cs.all isWordByte = true) (hd : isWordByte d = false)
    (h1 : c ≠ c_slash) (h2 : c ≠ c_dollar) (h0 : ∀ x ∈ c :: cs, x ≠ 0) :
    lexInitial env nl (c :: cs ++ d :: rest) = ⟨.str (c :: cs), nl, d :: rest⟩ :=
  unquoted_noNul env c cs d rest nl hc hcs hd (fun h => absurd h h1) (fun h => absurd h h2) h0

def isDelim (d : Nat) : Prop := d = c_nl ∨ d = c_comma ∨ d = c_rbr

theorem delim_notWord (d : Nat) (h : isDelim d) : isWordByte d = false := by
  rcases h with rfl | rfl | rfl <;> decide

/-- **a printed value scans back to its text**, whatever delimiter of a printed configuration follows it -/
theorem lex_value (env : Env) (ty : Ty) (v : Val) (t : Bytes) (d : Nat) (rest : Bytes) (nl : Nat)
    (hg : goodCell ty v = true) (ht : valText v = some t) (hd : isDelim d) :
    ∃ nl', lexInitial env nl (nprintVar ty (some v) ++ d :: rest) = ⟨.str t, nl', d :: rest⟩ := by
  have hdw := delim_notWord d hd
  rcases goodCell_cases hg with ⟨n, rfl, rfl, _, _⟩ | ⟨b, rfl, rfl⟩ | ⟨s, rfl, rfl, h0⟩ <;> cases ht
  · obtain ⟨c, cs, h3, hc, hcs, h1, h2, h0⟩ := decDigits_word n.natAbs
    refine ⟨nl, ?_⟩
    simp only [nprintVar]
    unfold printInt
    by_cases hneg : n < 0
    · simp only [hneg, if_true]
      rw [h3]
      exact lex_word env c_minus (c :: cs) d rest nl (by decide) (by simp [hc, hcs]) hdw (by decide) (by decide)
        (List.forall_mem_cons.2 ⟨by decide, h0⟩)
    · simp only [hneg, if_false]
      rw [h3]
      exact lex_word env c cs d rest nl hc hcs hdw h1 h2 h0
  · refine ⟨nl, ?_⟩
    cases b
    · simp only [nprintVar, Bool.false_eq_true, if_false, bFalse]
      exact lex_word env 102 [97, 108, 115, 101] d rest nl (by decide) (by decide) hdw (by decide) (by decide) (by decide)
    · simp only [nprintVar, if_true, bTrue]
      exact lex_word env 116 [114, 117, 101] d rest nl (by decide) (by decide) hdw (by decide) (by decide) (by decide)
  · exact ⟨_, by simpa [nprintVar] using C05_str env _ (d :: rest) nl h0⟩

/-- an option whose printed form the flat round trip covers -/
structure Printable (o : Opt) : Prop where
  ty : o.ty = .int ∨ o.ty = .bool ∨ o.ty = .str
  noPrintCb : o.info.printCb = false
  noComment : o.comment = none
  name0 : ∀ c ∈ o.name, c ≠ 0
  cells : ∀ v ∈ o.vals, goodCell o.ty v = true
  scalar1 : o.flags.list = false → ∃ v, o.vals = [v]

theorem goodCell_text (ty : Ty) (v : Val) (h : goodCell ty v = true) : ∃ t, valText v = some t := by
  obtain ⟨t, ht, _⟩ := convTok_valText ty v h
  exact ⟨t, ht⟩

theorem printOpt_plain (o : Opt) (j : Nat) (h1 : o.ty ≠ .sec) (h2 : o.ty ≠ .func) (h3 : o.ty ≠ .ptr) (hnc : o.comment = none) :
    printOpt none j o = indentBytes j ++
      (if o.flags.list then printName o.name ++ [c_sp, c_eq, c_sp, c_lbr] ++ joinValues o o.vals.length 0 ++ [c_rbr]
       else (if isUnset o then [c_hash, c_sp] else []) ++ printName o.name ++ [c_eq] ++ printValue o 0) ++ [c_nl] := by
  obtain ⟨info, fl, subs, vals, cm⟩ := o
  cases hnc
  simp only [Opt.ty, Opt.info] at h1 h2 h3
  by_cases hl : fl.list = true <;>
    simp [printOpt, h1, h2, h3, hl, Opt.flags, Opt.vals, Opt.name, Opt.info]

theorem Printable.plain {o : Opt} (hp : Printable o) : o.ty ≠ .sec ∧ o.ty ≠ .func ∧ o.ty ≠ .ptr := by
  rcases hp.ty with h | h | h <;> simp [h]

theorem print_scalar (o : Opt) (v : Val) (hp : Printable o) (hl : o.flags.list = false) (hv : o.vals = [v]) :
    printOpt none 0 o = printName o.name ++ [c_eq] ++ nprintVar o.ty (some v) ++ [c_nl] := by
  have hg := hp.cells v (by rw [hv]; simp)
  have hunset : isUnset o = false := by
    rw [isUnset, hv]
    rcases goodCell_cases hg with ⟨_, rfl, h, _⟩ | ⟨_, rfl, h⟩ | ⟨_, rfl, h, _⟩ <;> simp [h]
  rw [printOpt_plain o 0 hp.plain.1 hp.plain.2.1 hp.plain.2.2 hp.noComment, hl, hunset, printValue, hp.noPrintCb, hv]
  rfl

/-- The newline that ends a printed line is not read by the scanner call that returns the line's last token: it is leading
white space of the NEXT call, and is counted on that call's token.  Hence `List.replicate k c_nl ++ …` in front of the
inputs below, and the newline left over in what they leave. -/
theorem lex_lead (env : Env) (k : Nat) (Y : Bytes) : lexInitial env 0 (List.replicate k c_nl ++ Y) = lexInitial env k Y := by
  rw [C15_ws env _ Y 0 (fun c hc => .inr (.inr (List.eq_of_mem_replicate hc))), List.count_replicate_self, Nat.zero_add]

theorem lex_spaces (env : Env) (j : Nat) (nl : Nat) (Y : Bytes) : lexInitial env nl (List.replicate j c_sp ++ Y) = lexInitial env nl Y := by
  rw [C15_ws env _ Y nl (fun c hc => .inl (List.eq_of_mem_replicate hc)), List.count_replicate, if_neg (by decide), Nat.add_zero]

theorem lex_scalar (env : Env) (o : Opt) (v : Val) (k : Nat) (rest : Bytes) (hp : Printable o) (hl : o.flags.list = false) (hv : o.vals = [v]) :
    ∃ ts, OptToks o ts ∧ LexSteps env (List.replicate k c_nl ++ (printOpt none 0 o ++ rest)) ts (c_nl :: rest) := by
  have hg := hp.cells v (by rw [hv]; simp)
  obtain ⟨t, ht⟩ := goodCell_text o.ty v hg
  rw [print_scalar o v hp hl hv]
  obtain ⟨n1, e1⟩ := C05_name env o.name (nprintVar o.ty (some v) ++ c_nl :: rest) c_eq k hp.name0 (Or.inr rfl)
  rw [← lex_lead] at e1
  obtain ⟨n3, e3⟩ := lex_value env o.ty v t c_nl rest 0 hg ht (Or.inl rfl)
  refine ⟨[(.str o.name, n1), (.eq, 0), (.str t, n3)], OptToks.scalar o v t n1 0 n3 hl hv ht hg, ?_⟩
  simp only [List.append_assoc, List.cons_append, List.nil_append]
  refine LexSteps.cons _ _ _ _ _ _ e1 rfl ?_
  refine LexSteps.cons _ _ _ _ _ _ rfl rfl ?_
  exact LexSteps.one e3 rfl

def joinVals (ty : Ty) : List Val → Bool → Bytes
  | [], _ => []
  | v :: vs, first => (if first then [] else [c_comma, c_sp]) ++ nprintVar ty (some v) ++ joinVals ty vs false

theorem joinValues_eq (o : Opt) (hpc : o.info.printCb = false) : ∀ (rem : List Val) (i : Nat), o.vals.drop i = rem →
    joinValues o rem.length i = joinVals o.ty rem (i == 0) := by
  intro rem
  induction rem with
  | nil => intro i _; rfl
  | cons v vs ih =>
    intro i hd
    have hi : o.vals[i]? = some v := by
      have := congrArg List.head? hd
      simpa [List.head?_drop] using this
    have hd' : o.vals.drop (i + 1) = vs := by
      have := congrArg List.tail hd
      simpa [List.tail_drop] using this
    simp only [List.length_cons, joinValues, joinVals, printValue, hpc, Bool.false_eq_true, if_false, hi]
    rw [ih (i + 1) hd']
    simp

theorem joinVals_delim (ty : Ty) (vs : List Val) (rest : Bytes) :
    ∃ d tail, joinVals ty vs false ++ c_rbr :: rest = d :: tail ∧ isDelim d := by
  cases vs with
  | nil => exact ⟨c_rbr, rest, rfl, Or.inr (Or.inr rfl)⟩
  | cons w ws => exact ⟨c_comma, c_sp :: (nprintVar ty (some w) ++ (joinVals ty ws false ++ c_rbr :: rest)), by simp [joinVals], Or.inr (Or.inl rfl)⟩

/-- a value of a printed list (after the blank that follows a comma, if any), in front of the rest of the list, is the
next token -/
theorem lexSteps_value (env : Env) (ty : Ty) (v : Val) (vs : List Val) (j : Nat) (rest : Bytes) {ts : List (Tok × Nat)} {out : Bytes}
    (hg : goodCell ty v = true) (h : LexSteps env (joinVals ty vs false ++ c_rbr :: rest) ts out) :
    ∃ t n, valText v = some t ∧
      LexSteps env (List.replicate j c_sp ++ (nprintVar ty (some v) ++ (joinVals ty vs false ++ c_rbr :: rest))) ((.str t, n) :: ts) out := by
  obtain ⟨t, ht⟩ := goodCell_text ty v hg
  obtain ⟨d, tail, hdt, hd⟩ := joinVals_delim ty vs rest
  obtain ⟨n, e⟩ := lex_value env ty v t d tail 0 hg ht hd
  rw [hdt] at h ⊢
  exact ⟨t, n, ht, .cons _ _ _ _ _ _ (by rw [lex_spaces]; exact e) rfl h⟩

theorem lex_joinVals_tail (env : Env) (ty : Ty) (rest : Bytes) : ∀ (vs : List Val), (∀ v ∈ vs, goodCell ty v = true) →
    ∃ seq : List (Nat × Bytes × Nat), seq.length = vs.length ∧
      (∀ i (h1 : i < seq.length) (h2 : i < vs.length), valText vs[i] = some seq[i].2.1 ∧ goodCell ty vs[i] = true) ∧
      LexSteps env (joinVals ty vs false ++ c_rbr :: rest) (flatSeq false seq) (c_rbr :: rest) := by
  intro vs
  induction vs with
  | nil => intro _; exact ⟨[], rfl, fun i h1 _ => absurd h1 (by simp), LexSteps.nil _⟩
  | cons v vs ih =>
    intro hall
    have hg := hall v (by simp)
    obtain ⟨seq, hlen, hsv, hsteps⟩ := ih (fun x hx => hall x (by simp [hx]))
    obtain ⟨t, n, ht, h⟩ := lexSteps_value env ty v vs 1 rest hg hsteps
    refine ⟨(0, t, n) :: seq, by simp [hlen], ?_, ?_⟩
    · intro i h1 h2
      cases i with
      | zero => exact ⟨by simpa using ht, by simpa using hg⟩
      | succ j =>
        have := hsv j (by simpa using h1) (by simpa using h2)
        simpa using this
    · simp only [joinVals, Bool.false_eq_true, if_false, flatSeq, List.cons_append, List.nil_append, List.append_assoc]
      exact LexSteps.cons _ _ _ _ _ _ rfl rfl h

theorem print_list (o : Opt) (hp : Printable o) (hl : o.flags.list = true) :
    printOpt none 0 o = printName o.name ++ [c_sp, c_eq, c_sp, c_lbr] ++ joinVals o.ty o.vals true ++ [c_rbr] ++ [c_nl] := by
  rw [printOpt_plain o 0 hp.plain.1 hp.plain.2.1 hp.plain.2.2 hp.noComment, hl, joinValues_eq o hp.noPrintCb o.vals 0 (by simp)]
  rfl

theorem lex_list (env : Env) (o : Opt) (k : Nat) (rest : Bytes) (hp : Printable o) (hl : o.flags.list = true) :
    ∃ ts, OptToks o ts ∧ LexSteps env (List.replicate k c_nl ++ (printOpt none 0 o ++ rest)) ts (c_nl :: rest) := by
  rw [print_list o hp hl]
  obtain ⟨n1, e1⟩ := C05_name env o.name (c_eq :: c_sp :: c_lbr :: (joinVals o.ty o.vals true ++ c_rbr :: c_nl :: rest)) c_sp k hp.name0 (Or.inl rfl)
  rw [← lex_lead] at e1
  simp only [List.append_assoc, List.cons_append, List.nil_append]
  -- name, `=` and `{` are read the same way whatever the list holds
  suffices h : ∃ tl, OptToks o ((.str o.name, n1) :: (.eq, 0) :: (.lbrace, 0) :: tl) ∧
      LexSteps env (joinVals o.ty o.vals true ++ c_rbr :: c_nl :: rest) tl (c_nl :: rest) by
    obtain ⟨tl, h1, h2⟩ := h
    exact ⟨_, h1, .cons _ _ _ _ _ _ e1 rfl (.cons _ .eq 0 _ _ _ rfl rfl (.cons _ .lbrace 0 _ _ _ rfl rfl h2))⟩
  cases hv : o.vals with
  | nil => exact ⟨[(.rbrace, 0)], OptToks.listNil o n1 0 0 0 hl hv, LexSteps.one rfl rfl⟩
  | cons v0 vs =>
    have hg0 := hp.cells v0 (by rw [hv]; simp)
    obtain ⟨seq, hlen, hsv, hsteps⟩ := lex_joinVals_tail env o.ty (c_nl :: rest) vs (fun x hx => hp.cells x (by rw [hv]; simp [hx]))
    obtain ⟨t0, n0, ht0, h⟩ := lexSteps_value env o.ty v0 vs 0 (c_nl :: rest) hg0 (hsteps.append (LexSteps.one rfl rfl))
    refine ⟨_, OptToks.listCons o v0 t0 vs seq n1 0 0 0 n0 0 hl hv ht0 hg0 hlen hsv, ?_⟩
    simp only [joinVals, if_true, List.nil_append, List.append_assoc, flatSeq]
    exact h

theorem lex_opt (env : Env) (o : Opt) (k : Nat) (rest : Bytes) (hp : Printable o) :
    ∃ ts, OptToks o ts ∧ LexSteps env (List.replicate k c_nl ++ (printOpt none 0 o ++ rest)) ts (List.replicate 1 c_nl ++ rest) := by
  by_cases hl : o.flags.list = true
  · exact lex_list env o k rest hp hl
  · have hl' : o.flags.list = false := by simpa using hl
    obtain ⟨v, hv⟩ := hp.scalar1 hl'
    exact lex_scalar env o v k rest hp hl' hv

theorem printOpts_cons (j : Nat) (o : Opt) (os : List Opt) : printOpts none j (o :: os) = printOpt none j o ++ printOpts none j os := rfl

theorem cfgPrint_nofilter (c : Cfg) (h : c.info.pff = none) : cfgPrint c = printOpts none 0 c.opts := C19_inherit c none 0 h

theorem lexSteps_indent (env : Env) (k j : Nat) (X : Bytes) (ts : List (Tok × Nat)) (out : Bytes) (hne : ts ≠ [])
    (h : LexSteps env (List.replicate k c_nl ++ X) ts out) :
    LexSteps env (List.replicate k c_nl ++ (List.replicate j c_sp ++ X)) ts out := by
  cases h with
  | nil => exact absurd rfl hne
  | cons _ t nl rest ts' _ hl hg hrest =>
    refine LexSteps.cons _ t nl rest ts' out ?_ hg hrest
    rw [lex_lead, lex_spaces, ← lex_lead]; exact hl

theorem optToks_ne_nil {o : Opt} {ts : List (Tok × Nat)} (h : OptToks o ts) : ts ≠ [] := by
  cases h <;> simp

theorem printOpt_indent (o : Opt) (j : Nat) (hp : Printable o) : printOpt none j o = indentBytes j ++ printOpt none 0 o := by
  rw [printOpt_plain o j hp.plain.1 hp.plain.2.1 hp.plain.2.2 hp.noComment, printOpt_plain o 0 hp.plain.1 hp.plain.2.1 hp.plain.2.2 hp.noComment]
  simp [indentBytes]

theorem lex_opt_indent (env : Env) (o : Opt) (j k : Nat) (rest : Bytes) (hp : Printable o) :
    ∃ ts, OptToks o ts ∧ LexSteps env (List.replicate k c_nl ++ (printOpt none j o ++ rest)) ts (List.replicate 1 c_nl ++ rest) := by
  obtain ⟨ts, h, s⟩ := lex_opt env o k rest hp
  refine ⟨ts, h, ?_⟩
  rw [printOpt_indent o j hp, indentBytes, List.append_assoc]
  exact lexSteps_indent env k (2 * j) _ ts _ (optToks_ne_nil h) s

/-- the options of a flat instance, printed at any indentation, scan to their tokens -/
theorem lex_opts_indent (env : Env) (j : Nat) : ∀ (os : List Opt) (k : Nat) (rest : Bytes), (∀ o ∈ os, Printable o) →
    ∃ ts k', FlatToks os ts ∧ LexSteps env (List.replicate k c_nl ++ (printOpts none j os ++ rest)) ts (List.replicate k' c_nl ++ rest) := by
  intro os
  induction os with
  | nil => intro k rest _; exact ⟨[], k, FlatToks.nil, LexSteps.nil _⟩
  | cons o os ih =>
    intro k rest hall
    obtain ⟨ts1, h1, s1⟩ := lex_opt_indent env o j k (printOpts none j os ++ rest) (hall o (by simp))
    obtain ⟨ts2, k', h2, s2⟩ := ih 1 rest (fun x hx => hall x (by simp [hx]))
    rw [printOpts_cons, List.append_assoc]
    exact ⟨ts1 ++ ts2, k', FlatToks.cons o os ts1 ts2 h1 h2, LexSteps.append s1 s2⟩

/-- **the printed text of a flat configuration scans to the tokens of its options**, one option after the other -/
theorem lex_opts (env : Env) : ∀ (os : List Opt) (k : Nat) (rest : Bytes), (∀ o ∈ os, Printable o) →
    ∃ ts k', FlatToks os ts ∧ LexSteps env (List.replicate k c_nl ++ (printOpts none 0 os ++ rest)) ts (List.replicate k' c_nl ++ rest) :=
  lex_opts_indent env 0

end Confuse
