import Confuse.Model.Api
import Confuse.Props.C16
/-!
# C09 / C16 — an update through one option reference changes no other option

`disjointRef r r'`: the option `r'` is neither `r` itself, nor an option inside one of `r`'s section
instances, nor an option whose section instances contain `r`.  `lens_frame`: updating at `r` leaves
the option at every disjoint `r'` exactly as it was, at any depth.  `api_point_update`: every by-path setter returns
its context or writes one option through the reference its path resolves to, which carries the frame property over
to the API (`C09_api_frame`).
-/
namespace Confuse

def disjointAt : List (Nat × Nat) → Nat → List (Nat × Nat) → Nat → Bool
  | [], leaf, [], leaf' => leaf != leaf'
  | [], leaf, (oj, _) :: _, _ => oj != leaf
  | (oi, _) :: _, _, [], leaf' => leaf' != oi
  | (oi, ii) :: rest, leaf, (oj, ij) :: rest', leaf' =>
    if oi = oj ∧ ii = ij then disjointAt rest leaf rest' leaf' else true

def disjointRef (r r' : OptRef) : Bool := disjointAt r.steps r.leaf r'.steps r'.leaf

/-- **Frame property of the option lens, at any depth.** -/
theorem lens_frame (g : Opt → Opt) : ∀ (steps : List (Nat × Nat)) (c : Cfg) (leaf : Nat) (steps' : List (Nat × Nat)) (leaf' : Nat),
    disjointAt steps leaf steps' leaf' = true →
    getOptAt (updOptAt g c steps leaf) steps' leaf' = getOptAt c steps' leaf' := by
  intro steps
  induction steps with
  | nil =>
    intro c leaf steps' leaf' hd
    cases steps' with
    | nil =>
      simp only [disjointAt, bne_iff_ne, ne_eq] at hd
      exact C16_other_option_frame g c leaf leaf' hd
    | cons st rest' =>
      obtain ⟨oj, ij⟩ := st
      simp only [disjointAt, bne_iff_ne, ne_eq] at hd
      simp only [getOptAt, updOptAt]
      cases c.opts[leaf]? with
      | none => rfl
      | some o => simp only []; rw [child_setOpts_ne c leaf oj ij _ hd]
  | cons st rest ih =>
    intro c leaf steps' leaf' hd
    obtain ⟨oi, ii⟩ := st
    simp only [updOptAt]
    cases hc : c.child oi ii with
    | none => rfl
    | some s =>
      cases steps' with
      | nil =>
        simp only [disjointAt, bne_iff_ne, ne_eq] at hd
        exact opts_setChild_ne c oi ii leaf' _ hd
      | cons st' rest' =>
        obtain ⟨oj, ij⟩ := st'
        simp only [disjointAt] at hd
        simp only [getOptAt]
        by_cases hsame : oi = oj ∧ ii = ij
        · obtain ⟨rfl, rfl⟩ := hsame
          simp only [and_self, if_true] at hd
          rw [child_setChild c oi ii s _ hc, hc]
          exact ih s leaf rest' leaf' hd
        · rw [child_setChild_ne c oi ii oj ij _ hsame]

/-- **C09 / C16 (no operation reaches another option).** Whatever is stored through the reference
`r`, every option at a disjoint reference — a different option of the same section, an option of a
sibling instance, of another section, of an enclosing or an unrelated context, at any depth — reads
back exactly as before. -/
theorem C09_other_options_untouched (c : Cfg) (r r' : OptRef) (o : Opt) (h : disjointRef r r' = true) :
    (c.setOpt r o).getOpt r' = c.getOpt r' :=
  lens_frame (fun _ => o) r.steps c r.leaf r'.steps r'.leaf h

inductive PointUpdate (c : Cfg) (r : OptRef) : Cfg → Prop
  | same : PointUpdate c r c
  | write (o : Opt) : PointUpdate c r (c.setOpt r o)

theorem PointUpdate.frame {c : Cfg} {r : OptRef} {c' : Cfg} (h : PointUpdate c r c') (r' : OptRef) (hd : disjointRef r r' = true) :
    c'.getOpt r' = c.getOpt r' := by
  cases h with
  | same => rfl
  | write o => exact C09_other_options_untouched c r r' o hd

theorem modOpt_point (c : Cfg) (r : OptRef) (f : Opt → Opt × Bool × List CbCall) (ds : List DiagCls) :
    PointUpdate c r (modOpt c r f ds).cfg := by
  unfold modOpt
  split
  · exact .write _
  · exact .same

theorem api_point_update (orc : Oracle) (k : Nat) (c : Cfg) (path : Bytes) (r : OptRef) (hr : (getoptPath c path).ref = some r) :
    (∀ ty v idx b, PointUpdate c r (apiSetn orc k c path ty v idx b).cfg) ∧
    (∀ vs app, PointUpdate c r (apiList c path vs app).cfg) ∧
    (∀ values, PointUpdate c r (apiSetmulti orc k c path values).cfg) ∧
    (∀ value, PointUpdate c r (apiSetopt orc k c path value).cfg) := by
  refine ⟨?_, ?_, ?_, ?_⟩
  · intro ty v idx b
    unfold apiSetn
    simp only [hr]
    cases c.getOpt r with
    | none => exact .same
    | some o =>
      simp only []
      split
      · split
        · exact .same
        · exact modOpt_point c r _ _
      · exact modOpt_point c r _ _
  · intro vs app
    unfold apiList
    simp only [hr]
    cases c.getOpt r with
    | none => exact .same
    | some o =>
      simp only []
      split
      · exact .same
      · exact .write _
  · intro values
    unfold apiSetmulti
    simp only [hr]
    cases c.getOpt r with
    | none => exact .same
    | some o => exact .write _
  · intro value
    unfold apiSetopt
    simp only [hr]
    cases c.getOpt r with
    | none => exact .same
    | some o => exact .write _

/-- **C09 (a setter touches the addressed option only).** After any by-path typed setter, list set /
append, bulk set or set-from-text — successful or refused — every option at a reference disjoint
from the one the path resolves to reads back exactly as before. -/
theorem C09_api_frame (orc : Oracle) (k : Nat) (c : Cfg) (path : Bytes) (r r' : OptRef)
    (hr : (getoptPath c path).ref = some r) (hd : disjointRef r r' = true) :
    (∀ ty v idx b, (apiSetn orc k c path ty v idx b).cfg.getOpt r' = c.getOpt r') ∧
    (∀ vs app, (apiList c path vs app).cfg.getOpt r' = c.getOpt r') ∧
    (∀ values, (apiSetmulti orc k c path values).cfg.getOpt r' = c.getOpt r') ∧
    (∀ value, (apiSetopt orc k c path value).cfg.getOpt r' = c.getOpt r') := by
  obtain ⟨h1, h2, h3, h4⟩ := api_point_update orc k c path r hr
  exact ⟨fun ty v idx b => (h1 ty v idx b).frame r' hd, fun vs app => (h2 vs app).frame r' hd,
    fun values => (h3 values).frame r' hd, fun value => (h4 value).frame r' hd⟩

end Confuse
