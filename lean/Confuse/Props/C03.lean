import Confuse.Lemmas.Lexer
/-!
# C03 — string, escape, environment and comment lexing decode as specified
-/
namespace Confuse
open Confuse.Spec

/-- **C03 (double quotes, accepted forms).** For every environment and every normal item list,
scanning `"` ++ render ++ `"` ++ rest yields the string token whose value is the items' value (as
the parser's `strdup` sees it), counts exactly the items' newlines, and leaves `rest`. -/
theorem C03_dq_decode (env : Env) (items : List DqItem) (nl : Nat) (rest : Bytes)
    (h : NormalDq items (c_dq :: rest)) :
    lexInitial env nl (c_dq :: (renderDq items ++ c_dq :: rest)) =
      ⟨.str (cstr (valueDq env items)), nl + newlinesDq items, rest⟩ := by
  show dqRun env ⟨.plain, [], nl⟩ _ = _
  rw [dq_items env items [] nl (c_dq :: rest) h, dqRun_close, List.append_nil, List.reverse_reverse]

/-- **C03 (octal escape out of range).** After any normal prefix, backslash + 1..3 octal digits
with value above 0xFF, not followed by another digit, is rejected with "invalid octal number". -/
theorem C03_dq_reject_octal (env : Env) (items : List DqItem) (ds : List Nat) (d : Nat) (after : Bytes) (nl : Nat)
    (hn : NormalDq items (c_bs :: (ds ++ d :: after)))
    (hlen : 1 ≤ ds.length ∧ ds.length ≤ 3) (hoct : ds.all isOct = true) (hbig : octVal ds > 255)
    (hd : isDec d = false) :
    (lexInitial env nl (c_dq :: (renderDq items ++ c_bs :: (ds ++ d :: after)))).tok = .err .badOctal := by
  show (dqRun env ⟨.plain, [], nl⟩ _).tok = _
  rw [dq_items env items [] nl _ hn]
  cases ds with
  | nil => simp at hlen
  | cons d1 rest =>
    have hl : 1 + rest.length ≤ 3 := by simpa [Nat.add_comm] using hlen.2
    rw [List.cons_append, dqRun_bs_digits env d1 rest _ _ _ (all_isDec_of_isOct hoct)]
    exact dqRun_digits_err env (by simp [finDigits, hl, hoct, hbig]) _ _ _ hd

/-- **C03 (bad escape).** After any normal prefix, backslash + a decimal digit run that has more
than three digits or contains 8 or 9, not followed by another digit, is rejected with
"bad escape sequence". -/
theorem C03_dq_reject_bad (env : Env) (items : List DqItem) (d1 : Nat) (ds : List Nat) (d : Nat) (after : Bytes) (nl : Nat)
    (hn : NormalDq items (c_bs :: d1 :: (ds ++ d :: after)))
    (hdec : isDec d1 = true ∧ ds.all isDec = true)
    (hbad : 1 + ds.length > 3 ∨ (isOct d1 && ds.all isOct) = false)
    (hd : isDec d = false) :
    (lexInitial env nl (c_dq :: (renderDq items ++ c_bs :: d1 :: (ds ++ d :: after)))).tok = .err .badEscape := by
  show (dqRun env ⟨.plain, [], nl⟩ _).tok = _
  rw [dq_items env items [] nl _ hn, dqRun_bs_digits env d1 ds _ _ _ (by simp [hdec.1, hdec.2])]
  refine dqRun_digits_err env ?_ _ _ _ hd
  unfold finDigits
  rcases hbad with h | h
  · simp [Nat.not_le.2 h]
  · simp [h]

/-- **C03 (double quotes, unterminated).** A normal body that runs into the end of the input is
rejected with "unterminated string constant". -/
theorem C03_dq_unterminated (env : Env) (items : List DqItem) (nl : Nat) (h : NormalDq items []) :
    (lexInitial env nl (c_dq :: renderDq items)).tok = .err .unterminatedString := by
  show (dqRun env ⟨.plain, [], nl⟩ _).tok = _
  rw [← List.append_nil (renderDq items), dq_items env items [] nl [] h]
  rfl

/-- **C03 (single quotes).** Only `\'` and `\\` are unescaped, backslash-newline joins lines,
every other byte (including `$`, `{`, `"` and other backslash pairs) is kept verbatim. -/
theorem C03_sq_decode (env : Env) (items : List SqItem) (nl : Nat) (rest : Bytes)
    (h : ∀ i ∈ items, i.wf = true) :
    lexInitial env nl (c_sq :: (renderSq items ++ c_sq :: rest)) =
      ⟨.str (cstr (valueSq items)), nl + newlinesSq items, rest⟩ := by
  show sqRun .plain [] nl _ = _
  rw [sq_items items [] nl _ h, sqRun_close, List.append_nil, List.reverse_reverse]

/-- **C03 (single quotes, unterminated).** -/
theorem C03_sq_unterminated (env : Env) (items : List SqItem) (nl : Nat) (h : ∀ i ∈ items, i.wf = true) :
    (lexInitial env nl (c_sq :: renderSq items)).tok = .err .unterminatedString := by
  show (sqRun .plain [] nl _).tok = _
  rw [← List.append_nil (renderSq items), sq_items items [] nl [] h]
  rfl

/-- **C03 (no substitution inside single quotes).** `'${NAME}'` denotes the five-plus bytes
themselves, whatever the environment holds. -/
theorem C03_env_not_in_sq (env : Env) (name : Bytes) (nl : Nat) (rest : Bytes)
    (hname : ∀ c ∈ name, c ≠ c_sq ∧ c ≠ c_bs ∧ c ≠ c_nl) :
    lexInitial env nl (c_sq :: ([c_dollar, c_lbr] ++ name ++ [c_rbr] ++ c_sq :: rest)) =
      ⟨.str (cstr ([c_dollar, c_lbr] ++ name ++ [c_rbr])), nl, rest⟩ := by
  have plain : ∀ (l acc : Bytes), (∀ c ∈ l, c ≠ c_sq ∧ c ≠ c_bs ∧ c ≠ c_nl) →
      sqRun .plain acc nl (l ++ c_sq :: rest) = ⟨.str (cstr (acc.reverse ++ l)), nl, rest⟩ := by
    intro l
    induction l with
    | nil => intro acc _; rw [List.nil_append, sqRun_close, List.append_nil]
    | cons c cs ih =>
      intro acc h
      have hc := h c (List.mem_cons_self ..)
      rw [List.cons_append, sqRun, if_neg hc.1, if_neg hc.2.2, if_neg hc.2.1, ih _ fun x hx => h x (List.mem_cons_of_mem _ hx)]
      simp
  refine (plain _ [] fun c hc => ?_).trans rfl
  simp only [List.mem_append, List.mem_cons, List.not_mem_nil, or_false] at hc
  rcases hc with ((rfl | rfl) | hc) | rfl
  · decide
  · decide
  · exact hname c hc
  · decide

/-- **C03 (substitution in double quotes).** `"${NAME}"` / `"${NAME:-default}"` denote the
variable's value, else the default, else nothing. -/
theorem C03_env_dq (env : Env) (name : Bytes) (dflt : Option Bytes) (nl : Nat) (rest : Bytes)
    (hwf : (DqItem.env name dflt).wf = true) :
    lexInitial env nl (c_dq :: ((DqItem.env name dflt).render ++ c_dq :: rest)) =
      ⟨.str (cstr (envValue env name dflt)), nl + (DqItem.env name dflt).newlines, rest⟩ := by
  have := C03_dq_decode env [.env name dflt] nl rest ⟨hwf, by simp [DqItem.okNext], trivial⟩
  simpa [renderDq, valueDq, newlinesDq, DqItem.value, DqItem.newlines] using this

/-- **C03 (substitution, unquoted).** `${NAME}` / `${NAME:-default}` as a token of its own. -/
theorem C03_env_initial (env : Env) (name : Bytes) (dflt : Option Bytes) (nl : Nat) (rest : Bytes)
    (hwf : (DqItem.env name dflt).wf = true) :
    lexInitial env nl ((DqItem.env name dflt).render ++ rest) =
      ⟨.str (cstr (envValue env name dflt)), nl + (DqItem.env name dflt).newlines, rest⟩ := by
  obtain ⟨body, hr, hb, hv, hn⟩ := envItem_body env name dflt hwf
  have ht := span_append (p := (· != c_rbr)) (d := c_rbr) rest hb rfl
  rw [hr, ← hv, ← hn]
  simpa [ht.1, ht.2] using lexInitial_env env nl (body ++ c_rbr :: rest) (hasRbr_append_rbr body rest)

/-- **C03 (unquoted words are verbatim).** A run of word bytes that does not begin a comment
(`//`, `/*`) or a substitution (`${`…`}`), followed by a delimiter, is one string token holding
exactly those bytes. -/
theorem C03_unquoted_verbatim (env : Env) (c : Nat) (cs : Bytes) (d : Nat) (rest : Bytes) (nl : Nat)
    (hc : isWordByte c = true) (hcs : cs.all isWordByte = true) (hd : isWordByte d = false)
    (hslash : c = c_slash → cs.head? ≠ some c_slash ∧ (cs = [] → d ≠ c_slash ∧ d ≠ c_star))
    (hdollar : c = c_dollar → ¬ ((cs ++ d :: rest).head? = some c_lbr ∧ hasRbr (cs ++ d :: rest).tail = true)) :
    lexInitial env nl (c :: cs ++ d :: rest) = ⟨.str (cstr (c :: cs)), nl, d :: rest⟩ := by
  have hw := span_append (p := isWordByte) (a := c :: cs) rest (by simp [hc, hcs]) hd
  have hword : lexWord nl (c :: cs ++ d :: rest) = ⟨.str (cstr (c :: cs)), nl, d :: rest⟩ := by
    simp only [lexWord]
    rw [hw.1, hw.2]
  rw [← hword]
  by_cases hs : c = c_slash
  · subst hs
    obtain ⟨hs1, hs2⟩ := hslash rfl
    have hstar : isWordByte c_star = false := rfl
    cases cs with
    | nil => exact lexInitial_slash env nl _ (by simpa using (hs2 rfl).1) (by simpa using (hs2 rfl).2)
    | cons e es =>
      refine lexInitial_slash env nl _ (by simpa using hs1) ?_
      rintro h; cases Option.some.inj h
      simp [hstar] at hcs
  by_cases hdl : c = c_dollar
  · subst hdl; exact lexInitial_dollar env nl _ (hdollar rfl)
  · exact lexInitial_word env nl _ hc hs hdl

theorem unquoted_noNul (env : Env) (c : Nat) (cs : Bytes) (d : Nat) (rest : Bytes) (nl : Nat)
    (hc : isWordByte c = true) (hcs : cs.all isWordByte = true) (hd : isWordByte d = false)
    (hslash : c = c_slash → cs.head? ≠ some c_slash ∧ (cs = [] → d ≠ c_slash ∧ d ≠ c_star))
    (hdollar : c = c_dollar → ¬ ((cs ++ d :: rest).head? = some c_lbr ∧ hasRbr (cs ++ d :: rest).tail = true))
    (h0 : ∀ x ∈ c :: cs, x ≠ 0) :
    lexInitial env nl (c :: cs ++ d :: rest) = ⟨.str (c :: cs), nl, d :: rest⟩ := by
  rw [C03_unquoted_verbatim env c cs d rest nl hc hcs hd hslash hdollar, cstr_noNul _ h0]

/-- **C03 (comments never contribute a value).** Whatever follows `#`, `//` or `/*`, the token
the scanner returns is a comment token or an error, never a string. -/
theorem C03_comment_no_value (env : Env) (nl : Nat) (body : Bytes) :
    (∀ v, (lexInitial env nl (c_hash :: body)).tok ≠ .str v) ∧
    (∀ v, (lexInitial env nl (c_slash :: c_slash :: body)).tok ≠ .str v) ∧
    (∀ v, (lexInitial env nl (c_slash :: c_star :: body)).tok ≠ .str v) := by
  refine ⟨?_, ?_, ?_⟩
  · exact fun v => Tok.noConfusion
  · exact fun v => Tok.noConfusion
  · intro v
    show (commentRun [] nl body).tok ≠ _
    rcases commentRun_tok body [] nl with ⟨t, h⟩ | h <;> rw [h] <;> exact Tok.noConfusion

/-! Non-vacuity: the hypotheses are met by concrete, non-trivial literals. -/
example : NormalDq [.plain 97, .oct [49, 48, 49], .letter 110, .hex [52], .dollar, .env [88] (some [100]), .cont, .other 34]
    (c_dq :: [32]) := by
  simp only [NormalDq]
  decide

example : lexInitial (fun _ => none) 0 (c_dq :: (renderDq [.plain 97, .oct [49, 48, 49], .letter 110] ++ c_dq :: [32])) =
    ⟨.str [97, 65, 10], 0, [32]⟩ := by decide

end Confuse
