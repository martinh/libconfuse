import Confuse.Props.C08
import Confuse.Lemmas.Store
/-!
# C16 — a context owns a private copy of its schema and shares nothing

In the functional model a context *is* a value, so "no aliasing" holds by construction; what is
stated here is the content that is not automatic: the copy is complete (every declared field of
every declaration at every depth arrives in the context, and in every section instance created at
any later time), and an update addressed to one section instance leaves its siblings untouched.
-/
namespace Confuse

/-- **C16 (the copy is complete).** Each option of a new context carries the declaration's name,
type, defaults, callbacks and the whole sub-declaration tree — whatever its flags. -/
theorem C16_dup_complete (ci : CfgInfo) (d : Decl) :
    (mkOpt ci d).info = d.info ∧ (mkOpt ci d).subs = d.subs := by
  obtain ⟨info, flags, subs⟩ := d
  rcases mkOpt_cases ci info flags subs with h | ⟨-, hp⟩
  · rw [h]; exact ⟨rfl, rfl⟩
  · exact ⟨hp.info, hp.subs⟩

theorem C16_dup_order (ci : CfgInfo) (ds : List Decl) :
    (mkOpts ci ds).map (fun o => o.info.name) = ds.map (fun d => d.info.name) := by
  induction ds with
  | nil => simp [mkOpts]
  | cons d ds ih => simp [mkOpts, ih, (C16_dup_complete ci d).1]

/-- **C16 (later instances).** A section instance created at any later time is built from the
option's own copy of the sub-declarations: it has exactly the declared sub-options, in order, each
complete — the caller's arrays are not consulted. -/
theorem C16_late_instance (ci : CfgInfo) (o : Opt) (title : Option Bytes) :
    (mkSection ci o title).opts.map (fun x => x.info.name) = o.subs.map (fun d => d.info.name) ∧
    (mkSection ci o title).info.title = title ∧ (mkSection ci o title).info.name = o.name := by
  refine ⟨?_, rfl, rfl⟩
  simp [mkSection, Cfg.opts, C16_dup_order]

/-- and a sub-option of such an instance has its declared default (string case) -/
theorem C16_late_default (ci : CfgInfo) (info : OptInfo) (flags : Flags) (subs : List Decl)
    (hty : info.ty = .str) (hnd : flags.nodefault = false) (hl : flags.list = false) (hdl : info.defList = none) :
    (mkOpt ci (.mk info flags subs)).vals = [.str info.defStr] := by
  cases hs : info.simple <;> simp [mkOpt, hs, hty, hnd, hl, hdl, Opt.vals]

/-- **C16 (sibling instances share nothing).** An update through a reference that descends into
instance `i` of a section option leaves instance `j ≠ i` exactly as it was. -/
theorem C16_sibling_frame (g : Opt → Opt) (c : Cfg) (oi i j : Nat) (rest : List (Nat × Nat)) (leaf : Nat) (h : i ≠ j) :
    (updOptAt g c ((oi, i) :: rest) leaf).child oi j = c.child oi j := by
  simp only [updOptAt]
  cases c.child oi i with
  | none => rfl
  | some s => exact child_setChild_ne c oi i oi j _ fun ⟨_, e⟩ => h e

/-- other options of the same context are untouched as well -/
theorem C16_other_option_frame (g : Opt → Opt) (c : Cfg) (leaf k : Nat) (h : leaf ≠ k) :
    (updOptAt g c [] leaf).opts[k]? = c.opts[k]? := by
  simp only [updOptAt]
  split
  · simp [Cfg.setOpts, Cfg.opts, listSet_get_ne _ _ _ _ h]
  · rfl

/-- **C16 (two contexts).** From C08: an operation addressed to one context slot leaves the other
slots untouched. -/
theorem C16_context_frame (w : Driver.World) (i j : Nat) (x : Option Driver.Ctx) (h : i ≠ j) :
    Driver.getCtx (Driver.setCtx w i x) j = Driver.getCtx w j := C08_frame w i j x h

end Confuse
