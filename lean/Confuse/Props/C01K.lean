import Confuse.Lemmas.Resolve
/-!
# C01 — free-form sections: a key is any string, and a repeated key is the same option

In a `CFGF_KEYSTRVAL` context the parser adds an option for a name it does not find (state 0 of the token machine,
`cfg_addopt`).  Whatever bytes the key consists of - also ones that look like a path (`a|b`, `x=1`) - the option just
added is what the next lookup of that key returns, silently: so a repeated key assigns to the same option ("a repeated
scalar keeps the last value") instead of adding a second one (fix F49).
-/
namespace Confuse

/-- the key found again is the option the next `=` assigns to: a context in which the key exists resolves it, whatever
the key looks like -/
theorem C01_freeform_key_found (c : Cfg) (name : Bytes) (hne : name ≠ []) (hkv : c.flags.keystrval = true) (i : Nat)
    (h : getoptLeaf c name = some i) : (getoptPath c name).ref = some ⟨[], i⟩ ∧ (getoptPath c name).diags = [] := by
  rw [getoptPath_key hne ((keyFirst_key name hkv).trans h)]
  exact ⟨rfl, rfl⟩

/-- **C01 (free-form keys).** For every non-empty key: once added, the key resolves to exactly the added option. -/
theorem C01_freeform_key_refound (c : Cfg) (name : Bytes) (hne : name ≠ []) (hkv : c.flags.keystrval = true)
    (hnew : getoptLeaf c name = none) :
    (getoptPath (c.setOpts (c.opts ++ [Opt.mk { name := name, ty := .str } {} [] [] none])) name).ref = some ⟨[], c.opts.length⟩ ∧
    (getoptPath (c.setOpts (c.opts ++ [Opt.mk { name := name, ty := .str } {} [] [] none])) name).diags = [] := by
  have hl : ∀ o : Opt, titleEq c.flags.nocase o.name name = true →
      getoptLeaf (c.setOpts (c.opts ++ [o])) name = some c.opts.length := by
    intro o ho
    show findOptIdx c.flags.nocase name (c.opts ++ o :: []) 0 = _
    rw [findOptIdx_skip _ _ c.opts o [] 0 (findOptIdx_none _ _ _ 0 hnew) ho, Nat.zero_add]
  exact C01_freeform_key_found (c.setOpts _) name hne hkv _ (hl _ (titleEq_refl _ _))

/-- non-vacuity: the key `a|b` in an empty free-form section -/
example : (getoptPath ((Cfg.mk { name := [115], flags := { keystrval := true } } []).setOpts
    ([] ++ [Opt.mk { name := [97, 124, 98], ty := .str } {} [] [] none])) [97, 124, 98]).ref = some ⟨[], 0⟩ := by decide

end Confuse
