import Confuse.Lemmas.Total
import Confuse.Lemmas.Assign
/-!
# C01 — parsed configuration equals the reference meaning of the text

Proved here: the laws the statement lists, at the two places where the code decides them — the
value store (`setopt`, one theorem per clause) and the token machine's handling of `=` / `+=`
(what it hands to the store); and the nesting structure (`C01_frame_local`, `C01_refinement`: the token machine
equals the compositional evaluation of every item list).  Exactness in the other direction (every accepted token
sequence is the flattening of some item list) is not proved; see PARTIAL in vlib/props/C01.py and DESIGN.md §7.
-/
namespace Confuse

def plainInt (o : Opt) : Prop := o.ty = .int ∧ o.info.parseCb = false

theorem setoptConvert_int (orc : Oracle) (k : Nat) (o : Opt) (v : Bytes) (n : Int)
    (ho : plainInt o) (hv : convInt v = .ok n) :
    setoptConvert orc k o (some v) = .ok (.int n, []) := by
  unfold setoptConvert
  simp [ho.1, ho.2, hv]

/-- **'=' replaces** (scalar or list): the first value stored after `=` (which sets RESET) is the
only value afterwards, whatever the option held — defaults included. -/
theorem C01_eq_replaces (orc : Oracle) (k : Nat) (ci : CfgInfo) (o : Opt) (v : Bytes) (n : Int)
    (ho : plainInt o) (hv : convInt v = .ok n) (hreset : o.flags.reset = true) :
    (setopt orc k ci o (some v)).opt.vals = [.int n] ∧ (setopt orc k ci o (some v)).res = some 0 ∧
    (setopt orc k ci o (some v)).opt.flags.reset = false ∧ (setopt orc k ci o (some v)).opt.flags.modified = true := by
  rw [setopt_scalar orc k ci o _ _ [] (.int n) (setoptConvert_int orc k o v n ho hv) rfl]
  simp [Opt.base_of_reset hreset]

/-- **'+=' appends, also to defaults**: with RESET cleared (what the parser does on `+=`), a value
stored into a list option goes after everything the option holds. -/
theorem C01_pluseq_appends (orc : Oracle) (k : Nat) (ci : CfgInfo) (o : Opt) (v : Bytes) (n : Int)
    (ho : plainInt o) (hv : convInt v = .ok n) (hreset : o.flags.reset = false) (hlist : o.flags.list = true) :
    (setopt orc k ci o (some v)).opt.vals = o.vals ++ [.int n] ∧ (setopt orc k ci o (some v)).res = some o.vals.length := by
  rw [setopt_scalar orc k ci o _ _ [] (.int n) (setoptConvert_int orc k o v n ho hv) rfl]
  simp [Opt.base_of_not_reset hreset, hlist]

/-- **a repeated scalar keeps the last value**: a scalar that already holds an explicit value is
overwritten in place (one value before, one value after). -/
theorem C01_scalar_last_wins (orc : Oracle) (k : Nat) (ci : CfgInfo) (o : Opt) (v : Bytes) (n : Int) (old : Val)
    (ho : plainInt o) (hv : convInt v = .ok n) (hreset : o.flags.reset = false)
    (hlist : o.flags.list = false) (hmulti : o.flags.multi = false) (hvals : o.vals = [old]) :
    (setopt orc k ci o (some v)).opt.vals = [.int n] := by
  rw [setopt_scalar orc k ci o _ _ [] (.int n) (setoptConvert_int orc k o v n ho hv) rfl]
  simp [Opt.base_of_not_reset hreset, hlist, hmulti, hvals, listSet]

/-- **rejected text changes nothing** (shared with C10): an unconvertible value leaves the option
record untouched and reports one diagnostic. -/
theorem C01_bad_value_rejected (orc : Oracle) (k : Nat) (ci : CfgInfo) (o : Opt) (v : Bytes) (e : ConvErr)
    (ho : plainInt o) (hv : convInt v = .error e) :
    (setopt orc k ci o (some v)).opt = o ∧ (setopt orc k ci o (some v)).res = none ∧
    (setopt orc k ci o (some v)).diags.length = 1 := by
  obtain ⟨d, hd⟩ : ∃ d, setoptConvert orc k o (some v) = .error ([d], []) := by
    unfold setoptConvert
    cases e <;> simp [ho.1, ho.2, hv]
  rw [setopt_error orc k ci o _ _ hd]
  exact ⟨rfl, rfl, rfl⟩

/-- **multi sections accumulate in file order**: an untitled multi section gets a fresh instance
(built from the declaration: sub-options with their defaults) after the existing ones. -/
theorem C01_multi_accumulates (orc : Oracle) (k : Nat) (ci : CfgInfo) (o : Opt)
    (ho : secOpt o) (hmulti : o.flags.multi = true) (htitle : o.flags.title = false) :
    (setopt orc k ci o none).opt.vals = o.vals ++ [.sec (mkSection ci o none)] ∧
    (setopt orc k ci o none).res = some o.vals.length := by
  rw [setopt_new_untitled orc k ci o ho hmulti htitle]; exact ⟨rfl, rfl⟩

/-- **a new title appends**: titled multi section, title not present yet. -/
theorem C01_new_title_appends (orc : Oracle) (k : Nat) (ci : CfgInfo) (o : Opt) (t : Bytes)
    (ho : secOpt o) (hmulti : o.flags.multi = true) (htitle : o.flags.title = true)
    (hnew : findTitle ci.flags.nocase t o.vals 0 = none) :
    (setopt orc k ci o (some t)).opt.vals = o.vals ++ [.sec (mkSection ci o (some t))] := by
  rw [setopt_ok _ _ _ _ _ _ (setoptConvert_sec orc k o (some t) ho.1)]
  simp [foundTitle, setoptDone, setoptStore, Opt.base_of_not_reset ho.2, htitle, hmulti, hnew, ho.1, dropDefaults_of_not_reset o ho.2]

/-- **a repeated title replaces that section in place** (same position, fresh contents), unless
titles must be unique. -/
theorem C01_repeated_title_replaces (orc : Oracle) (k : Nat) (ci : CfgInfo) (o : Opt) (t : Bytes) (i : Nat) (old : Cfg)
    (ho : secOpt o) (hmulti : o.flags.multi = true) (htitle : o.flags.title = true) (hdupes : o.flags.noTitleDupes = false)
    (hfound : findTitle ci.flags.nocase t o.vals 0 = some i) (hold : o.vals[i]? = some (.sec old)) :
    (setopt orc k ci o (some t)).opt.vals = listSet o.vals i (.sec (mkSection ci o (some t))) ∧
    (setopt orc k ci o (some t)).res = some i := by
  rw [setopt_ok _ _ _ _ _ _ (setoptConvert_sec orc k o (some t) ho.1)]
  simp [foundTitle, setoptDone, setoptStore, Opt.base_of_not_reset ho.2, htitle, hmulti, hfound, hdupes, hold, ho.1,
    dropDefaults_of_not_reset o ho.2]

/-- **unique titles**: with NO_TITLE_DUPES a repeated title is refused, the option is unchanged and
a diagnostic is reported. -/
theorem C01_unique_title_rejected (orc : Oracle) (k : Nat) (ci : CfgInfo) (o : Opt) (t : Bytes) (i : Nat)
    (ho : secOpt o) (hmulti : o.flags.multi = true) (htitle : o.flags.title = true) (hdupes : o.flags.noTitleDupes = true)
    (hfound : findTitle ci.flags.nocase t o.vals 0 = some i) :
    (setopt orc k ci o (some t)).opt = o ∧ (setopt orc k ci o (some t)).res = none ∧
    (setopt orc k ci o (some t)).diags = [.dupTitle] := by
  rw [setopt_ok _ _ _ _ _ _ (setoptConvert_sec orc k o (some t) ho.1)]
  simp [foundTitle, Opt.base_of_not_reset ho.2, htitle, hmulti, hfound, hdupes, ho.1, dropDefaults_of_not_reset o ho.2]

/-- **a re-opened single section is merged**: the existing instance is kept as it is (the parser
then continues *inside* it), nothing is re-created or reset. -/
theorem C01_single_section_merges (orc : Oracle) (k : Nat) (ci : CfgInfo) (o : Opt) (t : Option Bytes) (c : Cfg)
    (ho : secOpt o) (hmulti : o.flags.multi = false) (hlist : o.flags.list = false) (hvals : o.vals = [.sec c]) :
    (setopt orc k ci o t).opt.vals = [.sec c] ∧ (setopt orc k ci o t).res = some 0 := by
  rw [setopt_single_any orc k ci o t c ho hmulti hlist hvals]; exact ⟨rfl, rfl⟩

/-- **unmentioned options keep their declared defaults**: a freshly created context holds, for a
scalar integer declaration, exactly the declared default, marked pristine. -/
theorem C01_default_materialised (ci : CfgInfo) (info : OptInfo) (flags : Flags) (subs : List Decl)
    (hty : info.ty = .int) (hnd : flags.nodefault = false) (hl : flags.list = false) (hdl : info.defList = none)
    (hs : info.simple = false) :      -- a CFG_SIMPLE option has no default: it holds the caller's variable (C01_simple_holds_variable)
    (mkOpt ci (.mk info flags subs)).vals = [.int info.defInt] ∧ (mkOpt ci (.mk info flags subs)).flags.reset = true ∧
    (mkOpt ci (.mk info flags subs)).flags.modified = false := by
  simp [mkOpt, hs, hty, hnd, hl, hdl, Opt.vals, Opt.flags]

/-- a CFG_SIMPLE_INT option starts out holding what the caller's variable holds, with its flags as declared (the
library installs no default for it and does not mark it pristine) -/
theorem C01_simple_holds_variable (ci : CfgInfo) (info : OptInfo) (flags : Flags) (subs : List Decl)
    (hty : info.ty = .int) (hs : info.simple = true) :
    (mkOpt ci (.mk info flags subs)).vals = [.int info.defInt] ∧ (mkOpt ci (.mk info flags subs)).flags = flags := by
  simp [mkOpt, hs, hty, Opt.vals, Opt.flags]

def topFrame (m : PM) : Option Frame := m.frames.head?

/-- **the parser's `=`**: in state 1 the token `=` marks the current option "replace" (RESET) and
MODIFIED, and moves on to expect a value (state 2) or a list (state 3). -/
theorem C01_parse_eq (orc : Oracle) (m : PM) (f : Frame) (rest : List Frame) (r : OptRef) (o : Opt) (nl : Nat)
    (hrun : m.status = .running) (hfr : m.frames = f :: rest) (hst : f.state = .s1) (hopt : f.opt = some r)
    (hget : (f.cfg.setLine (f.cfg.line + nl)).getOpt r = some o) :
    ∃ f', (pstep orc m .eq nl).frames = f' :: rest ∧ (pstep orc m .eq nl).status = .running ∧
      f'.state = (if o.flags.list then .s3 else .s2) ∧
      f'.cfg = (f.cfg.setLine (f.cfg.line + nl)).setOpt r (o.setFlags { o.flags with reset := true, modified := true }) := by
  rw [getOpt_setLine] at hget
  have h := pstep_asg orc m f rest false nl r o hrun hfr hst hopt hget nofun
  exact ⟨_, congrArg PM.frames h, (congrArg PM.status h).trans hrun, rfl, rfl⟩

/-- **the parser's `+=`**: only for lists; clears RESET so that the values which follow are appended
to whatever the option holds, defaults included. -/
theorem C01_parse_pluseq (orc : Oracle) (m : PM) (f : Frame) (rest : List Frame) (r : OptRef) (o : Opt) (nl : Nat)
    (hrun : m.status = .running) (hfr : m.frames = f :: rest) (hst : f.state = .s1) (hopt : f.opt = some r)
    (hget : (f.cfg.setLine (f.cfg.line + nl)).getOpt r = some o) (hlist : o.flags.list = true) :
    ∃ f', (pstep orc m .pluseq nl).frames = f' :: rest ∧ (pstep orc m .pluseq nl).status = .running ∧
      f'.state = .s3 ∧
      f'.cfg = (f.cfg.setLine (f.cfg.line + nl)).setOpt r (o.setFlags { o.flags with reset := false, modified := true }) := by
  rw [getOpt_setLine] at hget
  have h := pstep_asg orc m f rest true nl r o hrun hfr hst hopt hget (fun _ => hlist)
  exact ⟨_, congrArg PM.frames h, (congrArg PM.status h).trans hrun, if_pos hlist, rfl⟩

/-- `+=` on a non-list option is rejected with a diagnostic. -/
theorem C01_parse_pluseq_nonlist (orc : Oracle) (m : PM) (f : Frame) (rest : List Frame) (r : OptRef) (o : Opt) (nl : Nat)
    (hrun : m.status = .running) (hfr : m.frames = f :: rest) (hst : f.state = .s1) (hopt : f.opt = some r)
    (hget : (f.cfg.setLine (f.cfg.line + nl)).getOpt r = some o) (hlist : o.flags.list = false) :
    (pstep orc m .pluseq nl).status = .rejected ∧ (pstep orc m .pluseq nl).diags.length = m.diags.length + 1 := by
  rw [pstep_running orc m f rest _ nl hrun hfr rfl (.inl rfl), hst]
  simp only [stepFn, step_s1, show (f.addLine nl).opt = some r from hopt, show (f.addLine nl).cfg.getOpt r = some o from hget, hlist]
  exact ⟨rfl, rfl⟩


/-- **C01 (frame locality).** Whatever frames lie underneath the stack, a step of the token machine
does the same thing to the frames above them and leaves them untouched (`liftM` puts `rest`
underneath; for a machine that stopped it replays the unwinding through `rest`).  The only step
that looks at a lower frame is the `}` that closes the section of the lowest frame considered.  So
the parse of a section body — of any length and nesting — cannot read or change any enclosing
section. -/
theorem C01_frame_local (orc : Oracle) (m : PM) (f : Frame) (inner rest : List Frame) (tok : Tok) (nl : Nat)
    (hrun : m.status = .running) (hfr : m.frames = f :: inner) (hin : tok.inner = true)
    (hpop : ¬ (inner = [] ∧ f.state = .s0 ∧ tok = .rbrace)) :
    pstep orc (liftM m rest) tok nl = liftM (pstep orc m tok nl) rest :=
  pstep_lift orc m f inner rest tok nl hrun hfr hin hpop

/-- **C01 (the token machine computes the compositional meaning of the text).** For every item
list — assignments, braced lists, calls, comments, sections nested to any depth — on which the
compositional evaluation `evalItems` is defined, the explicit-stack machine run over the flattened
tokens, on top of any stack `rest`, ends exactly in the evaluation's result on top of `rest`.
`evalItems` evaluates a section body by a recursive call on a machine holding only the new
section's frame and re-attaches the result to the enclosing frame at the closing brace. -/
theorem C01_compositional (orc : Oracle) (items : List Item) (m r : PM) (rest : List Frame)
    (hev : evalItems orc m items = some r) (hlive : m.status = .running → ∃ f inner, m.frames = f :: inner) :
    parseToks orc (liftM m rest) (flats items) = liftM r rest :=
  (evalItems_sound orc items m r rest hev hlive).1

/-- the same from a stack of its own: the run of the machine *is* the compositional evaluation -/
theorem C01_compositional_top (orc : Oracle) (items : List Item) (m r : PM)
    (hev : evalItems orc m items = some r) (hrun : m.status = .running) (f : Frame) (hfr : m.frames = [f]) :
    parseToks orc m (flats items) = liftM r [] := by
  have := C01_compositional orc items m r [] hev (fun _ => ⟨f, [], hfr⟩)
  rwa [liftM_nil_running m hrun] at this


/-- **C01 (refinement, unconditional).** From an item boundary (a running machine whose stack is one
frame in state 0 — the start of a parse, or of any section body), for EVERY item list: the
compositional evaluation is defined (no guard fails: the brace structure of the grammar is the
brace accounting of the machine, also through skipped undeclared sections), the token machine on top
of any stack `rest` computes exactly its result, and the result is again at an item boundary — i.e.
a text made of well-formed items is either rejected inside an item or leaves the parser between
items, never in the middle of one. -/
theorem C01_refinement (orc : Oracle) (items : List Item) (m : PM) (f : Frame) (rest : List Frame)
    (hrun : m.status = .running) (hfr : m.frames = [f]) (hs : f.state = .s0) :
    ∃ r, evalItems orc m items = some r ∧
      parseToks orc (liftM m rest) (flats items) = liftM r rest ∧
      (r.status ≠ .running ∨ (r.status = .running ∧ ∃ f', r.frames = [f'] ∧ f'.state = .s0)) := by
  have hb : Bnd m := Or.inr ⟨hrun, f, hfr, hs⟩
  obtain ⟨r, hev, hbr⟩ := evalItems_total orc items m hb
  exact ⟨r, hev, (evalItems_sound orc items m r rest hev hb.live).1, hbr⟩

/-- **C01 (acceptance).** A whole text of well-formed items followed by end of input: the machine
reaches end of input in the result of the compositional evaluation, which — if no item was rejected —
is an item boundary, where end of input is legal at nesting level 0.  (`liftM r []` is `r` itself
when `r` is running; for a stopped `r` it is `r` with its frames unwound, which a later token never
looks at.) -/
theorem C01_items_then_eof (orc : Oracle) (items : List Item) (m : PM) (f : Frame) (n : Nat)
    (hrun : m.status = .running) (hfr : m.frames = [f]) (hs : f.state = .s0) :
    ∃ r, evalItems orc m items = some r ∧
      parseToks orc m (flats items ++ [(.eof, n)]) = pstep orc (liftM r []) .eof n ∧
      (r.status = .running → liftM r [] = r ∧ ∃ f', r.frames = [f'] ∧ f'.state = .s0) := by
  obtain ⟨r, hev, hrun', hb⟩ := C01_refinement orc items m f [] hrun hfr hs
  refine ⟨r, hev, ?_, ?_⟩
  · rw [liftM_nil_running m hrun] at hrun'
    rw [parseToks_append, hrun']
    rfl
  · intro hr
    rcases hb with hst | ⟨_, h⟩
    · exact absurd hr hst
    · exact ⟨liftM_nil_running r hr, h⟩

/-! ### non-vacuity: a nested text on which the compositional evaluation is defined -/

private def exDecls : List Decl :=
  [ .mk { name := [97], ty := .int, defInt := 5 } {} [],
    .mk { name := [108], ty := .int, defList := some [] } { list := true } [],
    .mk { name := [115], ty := .sec } { multi := true, title := true }
      [ .mk { name := [98], ty := .int, defInt := 7 } {} [],
        .mk { name := [117], ty := .sec } {} [ .mk { name := [99], ty := .int, defInt := 9 } {} [] ] ] ]
private def exM : PM := { frames := [{ cfg := cfgInit exDecls {} }], srcs := [] }
/-- `a = 1  l = {3, 4}  s "t" { b = 2  u { c = 6 } }` -/
private def exItems : List Item :=
  [ .assign [97] 0 false 0 [49] 1,
    .list [108] 0 false 0 0 [(0, [51], 0), (0, [52], 0)] 1,
    .sec [115] 0 (some ([116], 0)) 0
      [ .assign [98] 1 false 0 [50] 0,
        .sec [117] 1 none 0 [ .assign [99] 0 false 0 [54] 0 ] 1 ] 1 ]
private def exOrc : Oracle := fun _ _ => .ok
private def intsOf (o : Opt) : List Int := o.vals.filterMap (fun v => match v with | .int n => some n | _ => none)
private def secsOf (o : Opt) : List Cfg := o.vals.filterMap (fun v => match v with | .sec c => some c | _ => none)

example : (evalItems exOrc exM exItems).map (fun r => (r.status, r.frames.length, r.diags.length)) =
    some (.running, 1, 0) := by decide +kernel
example : (evalItems exOrc exM exItems).map (fun r => r.frames.map (fun f => f.cfg.opts.map intsOf)) =
    some [[[1], [3, 4], []]] := by decide +kernel
example : (evalItems exOrc exM exItems).map (fun r => r.frames.map (fun f => f.cfg.opts.map (fun o => (secsOf o).map (fun c => c.opts.map intsOf)))) =
    some [[[], [], [[[2], []]]]] := by decide +kernel
end Confuse
