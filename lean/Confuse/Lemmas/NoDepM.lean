import Confuse.Lemmas.NoDep
import Confuse.Lemmas.Quiet
/-!
# The token machine keeps a schema free of deprecated options free of them, and then reports nothing unless it rejects
-/
namespace Confuse

def NDM (m : PM) : Prop := m.status = .running → ∀ f ∈ m.frames, ndCfg f.cfg = true

theorem ndm_stop (m : PM) (h : m.status ≠ .running) : NDM m := fun hr => absurd hr h

theorem ndm_reject (m : PM) (f : Frame) (rest : List Frame) : NDM (m.reject f rest) :=
  ndm_stop _ (by simp)

theorem ndm_run (m' : PM) (g : Frame) (rest : List Frame) (hfr : m'.frames = g :: rest) (hg : ndCfg g.cfg = true)
    (hr : ∀ p ∈ rest, ndCfg p.cfg = true) : NDM m' := by
  intro _ f hf
  rw [hfr] at hf
  rcases List.mem_cons.1 hf with rfl | hf
  · exact hg
  · exact hr f hf

/-- closes `NDM x` where `x` was rejected (`rejectWith` is a `reject` by definition) or has the frames `g :: rest` with
`g.cfg` the tree of `f` -/
macro "ndm_auto" hf:ident hr:ident : tactic =>
  `(tactic| first
      | exact ndm_reject _ _ _
      | exact ndm_run _ _ _ rfl $hf $hr)

theorem storeValue_ndm (orc : Oracle) (m : PM) (f : Frame) (rest : List Frame) (v : Bytes) (next : PState)
    (hf : ndCfg f.cfg = true) (hr : ∀ p ∈ rest, ndCfg p.cfg = true) : NDM (storeValue orc m f rest v next) := by
  fun_cases storeValue orc m f rest v next
  case case5 r _ o hget _ f1 _ _ _ _ _ _ _ =>
    exact ndm_run _ _ rest rfl (inheritComment_nd f1 (setOpt_nd _ _ _ hf (setopt_nd _ _ _ _ _ (getOpt_nd f.cfg r o hf hget)))) hr
  all_goals exact ndm_reject _ _ _

theorem callFunction_ndm (orc : Oracle) (m : PM) (f : Frame) (rest : List Frame)
    (hf : ndCfg f.cfg = true) (hr : ∀ p ∈ rest, ndCfg p.cfg = true) : NDM (callFunction orc m f rest) := by
  fun_cases callFunction orc m f rest <;> ndm_auto hf hr

theorem step_s0_ndm (orc : Oracle) (m : PM) (f : Frame) (rest : List Frame) (tok : Tok)
    (hf : ndCfg f.cfg = true) (hr : ∀ p ∈ rest, ndCfg p.cfg = true) : NDM (step_s0 orc m f rest tok) := by
  have hd := handleDeprecated_id m f (noPending_of_nd f hf)
  fun_cases step_s0 orc m f rest tok
  all_goals cases hd.symm.trans ‹handleDeprecated m f = _›
  case case4 p rest' _ _ _ _ _ _ =>
    exact ndm_run _ _ rest' rfl (setInfo_nd _ _ (writeBack_nd p f (hr p (by simp)) hf)) (fun q hq => hr q (List.mem_cons_of_mem _ hq))
  case case8 =>
    refine ndm_run _ _ rest rfl (setOpts_nd _ _ ?_) hr
    rw [ndOpts_append]
    simp +zetaDelta [(ndCfg_iff f.cfg).1 hf, ndOpts, ndOpt, ndDecls, ndVals]
  all_goals ndm_auto hf hr

theorem stepFn_ndm (s : PState) (orc : Oracle) (m : PM) (f : Frame) (rest : List Frame) (tok : Tok) (hm : m.frames = f :: rest)
    (hf : ndCfg f.cfg = true) (hr : ∀ p ∈ rest, ndCfg p.cfg = true) : NDM (stepFn s orc m f rest tok) := by
  cases s <;> simp only [stepFn]
  case s0 => exact step_s0_ndm orc m f rest tok hf hr
  case s1 =>
    fun_cases step_s1 orc m f rest tok
    case case4 r _ o hget _ _ | case5 r _ o hget _ =>
      exact ndm_run _ _ rest rfl (setOpt_nd _ _ _ hf (setFlags_nd o _ (getOpt_nd f.cfg r o hf hget) rfl)) hr
    all_goals ndm_auto hf hr
  case s2 =>
    fun_cases step_s2 orc m f rest tok
    case case1 r o hb hopt _ o' ev hfree _ =>
      rw [hopt] at hb
      have ho' := freeValue_nd o (getOpt_nd f.cfg r o hf hb)
      rw [hfree] at ho'
      exact ndm_run _ _ rest rfl (setOpt_nd _ _ _ hf ho') hr
    all_goals first | ndm_auto hf hr | exact storeValue_ndm _ _ _ _ _ _ hf hr
  case s3 => fun_cases step_s3 orc m f rest tok <;> first | ndm_auto hf hr | exact storeValue_ndm _ _ _ _ _ _ hf hr
  case s4 => fun_cases step_s4 orc m f rest tok <;> ndm_auto hf hr
  case s5 =>
    fun_cases step_s5 orc m f rest tok
    -- the child is a value of the stored option, the parent holds the stored option
    case case2 r o hb hopt out _ _ i _ s hv _ _ _ _ =>
      rw [hopt] at hb
      have ho : ndOpt out.opt = true := setopt_nd orc m.k f.cfg.info o f.opttitle (getOpt_nd f.cfg r o hf hb)
      refine ndm_run _ _ _ rfl (setInfo_nd s _ (by simpa [ndVal] using vals_get_nd ho hv)) fun p hp => ?_
      rcases List.mem_cons.1 hp with rfl | hp
      · exact setOpt_nd _ _ _ hf ho
      · exact hr p hp
    all_goals ndm_auto hf hr
  case s6 => fun_cases step_s6 orc m f rest tok <;> ndm_auto hf hr
  case s7 => fun_cases step_s7 orc m f rest tok <;> ndm_auto hf hr
  case s8 => fun_cases step_s8 orc m f rest tok <;> first | ndm_auto hf hr | exact callFunction_ndm _ _ _ _ hf hr
  case s9 => fun_cases step_s9 orc m f rest tok <;> first | ndm_auto hf hr | exact callFunction_ndm _ _ _ _ hf hr
  case s10 => fun_cases step_s10 orc m f rest tok <;> ndm_auto hf hr
  case s11 => fun_cases step_s11 orc m f rest tok <;> ndm_auto hf hr
  case s12 => fun_cases step_s12 orc m f rest tok <;> first | ndm_auto hf hr | exact ndm_run _ _ _ hm hf hr
  case s13 => fun_cases step_s13 orc m f rest tok <;> first | ndm_auto hf hr | exact ndm_run _ _ _ hm hf hr
  case s14 => fun_cases step_s14 orc m f rest tok <;> ndm_auto hf hr

theorem pstep_ndm (orc : Oracle) (m : PM) (tok : Tok) (nl : Nat) (h : NDM m) : NDM (pstep orc m tok nl) := by
  refine pstep_cases orc m tok nl (fun _ => h) (fun f rest hrun hfr => ?_)
  have hf : ndCfg (f.addLine nl).cfg = true := addLine_nd f nl (h hrun f (by simp [hfr]))
  have hr : ∀ p ∈ rest, ndCfg p.cfg = true := fun p hp => h hrun p (by simp [hfr, hp])
  exact stepAt_cases orc _ _ rest tok (fun c => ndm_reject _ _ _) (fun _ _ => ndm_stop _ (by simp))
    (ndm_run _ _ rest rfl hf hr) (fun _ => stepFn_ndm _ orc _ _ rest tok rfl hf hr)

theorem parseToks_ndm (orc : Oracle) (ts : List LTok) : ∀ m, NDM m → NDM (parseToks orc m ts) :=
  parseToks_preserves orc (pstep_ndm orc) ts

theorem nd_all (m : PM) : nd (fun _ => false) m = m.diags := by simp [nd]

theorem pstep_silent (orc : Oracle) (m : PM) (tok : Tok) (nl : Nat) (h : NDM m) : Quiet (fun _ => false) m (pstep orc m tok nl) :=
  pstep_quiet orc m tok nl fun hrun f hf c hc => by
    rw [depEffect_id _ (noPending_of_nd _ (addLine_nd f nl (h hrun f (List.mem_of_mem_head? hf))))] at hc
    cases hc

theorem parseToks_silent (orc : Oracle) (ts : List LTok) : ∀ (m : PM), NDM m → (parseToks orc m ts).status ≠ .rejected →
    (parseToks orc m ts).diags = m.diags := by
  intro m h hacc
  have := parseToks_quiet_of orc (pstep_ndm orc) (pstep_silent orc) ts m h hacc
  rwa [nd_all, nd_all] at this

theorem startPM_ndm (c : Cfg) (text : Bytes) (k0 : Nat) (h : ndCfg c = true) : NDM (startPM c text k0) :=
  ndm_run _ _ [] rfl h (by simp)

end Confuse
