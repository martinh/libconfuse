import Confuse.Lemmas.Parser
/-!
# The skip locals are clear outside the skip states

`depth` and `ignore` are used only while an undeclared item is being discarded (states 12 and 13).
Invariant of every machine reachable from a clean one: in the current frame they hold their initial
values outside those states (in state 12 `ignore` does, in state 13 `depth` does), and in every
suspended frame they always do.
-/
namespace Confuse

def Clear (f : Frame) : Prop := f.depth = 0 ∧ f.ignore = .none

def SkipInv (f : Frame) : Prop :=
  (f.state ≠ .s12 → f.depth = 0) ∧ (f.state ≠ .s13 → f.ignore = .none)

def InvM (m : PM) : Prop := (∀ f ∈ m.frames.head?, SkipInv f) ∧ (∀ p ∈ m.frames.tail, Clear p)

theorem Clear.inv {f : Frame} (h : Clear f) : SkipInv f := ⟨fun _ => h.1, fun _ => h.2⟩

theorem clear_of_inv {f : Frame} (h : SkipInv f) (h12 : f.state ≠ .s12) (h13 : f.state ≠ .s13) : Clear f := ⟨h.1 h12, h.2 h13⟩

theorem clear_writeBack (p c : Frame) (h : Clear p) : Clear (writeBack p c) := by
  unfold writeBack
  repeat' split
  all_goals exact h

theorem skipInv_collapseInto (c : Frame) (ps : List Frame) (hc : SkipInv c) (hps : ∀ p ∈ ps, Clear p) :
    SkipInv (collapseInto c ps) := by
  induction ps generalizing c with
  | nil => exact hc
  | cons p ps ih =>
    exact ih _ (clear_writeBack p c (hps p (by simp))).inv (fun q hq => hps q (by simp [hq]))

theorem invM_of (m : PM) (g : Frame) (rest : List Frame) (hfr : m.frames = g :: rest) (hg : SkipInv g) (hr : ∀ p ∈ rest, Clear p) :
    InvM m := by
  constructor
  · intro f hf; simp [hfr] at hf; subst hf; exact hg
  · intro p hp; simp [hfr] at hp; exact hr p hp

theorem invM_reject (m : PM) (f : Frame) (rest : List Frame) (hf : SkipInv f) (hr : ∀ p ∈ rest, Clear p) :
    InvM (m.reject f rest) :=
  invM_of _ (collapseInto f rest) [] rfl (skipInv_collapseInto f rest hf hr) (by simp)

theorem clear_inherit (f : Frame) (h : Clear f) : Clear (inheritComment f) := by
  obtain ⟨c, hc, -⟩ := inheritComment_frame f
  rw [hc]; exact h

/-- closes `InvM x` where `x` was rejected on a frame with the skip locals of the clear frame `f`, or goes on with
such a frame -/
macro "inv_auto" hc:ident hr:ident : tactic =>
  `(tactic| first
      | exact invM_reject _ _ _ (Clear.inv $hc) $hr
      | exact invM_of _ _ _ rfl (Clear.inv $hc) $hr)

theorem storeValue_inv (orc : Oracle) (m : PM) (f : Frame) (rest : List Frame) (v : Bytes) (next : PState)
    (hf : Clear f) (hr : ∀ p ∈ rest, Clear p) :
    InvM (storeValue orc m f rest v next) := by
  fun_cases storeValue orc m f rest v next
  case case5 f1 _ _ _ _ _ _ _ => exact invM_of _ _ rest rfl (Clear.inv (clear_inherit f1 hf)) hr
  all_goals inv_auto hf hr

theorem callFunction_inv (orc : Oracle) (m : PM) (f : Frame) (rest : List Frame) (hf : Clear f) (hr : ∀ p ∈ rest, Clear p) :
    InvM (callFunction orc m f rest) := by
  fun_cases callFunction orc m f rest <;> inv_auto hf hr

theorem handleDeprecated_clear (m : PM) (f : Frame) (h : Clear f) : Clear (handleDeprecated m f).2 := by
  obtain ⟨c, hc, -⟩ := depEffect_frame f
  rw [handleDeprecated_spec, hc]; exact h

theorem stepFn_inv (orc : Oracle) (m : PM) (f : Frame) (rest : List Frame) (tok : Tok) (hm : m.frames = f :: rest)
    (hf : SkipInv f) (hr : ∀ p ∈ rest, Clear p) : InvM (stepFn f.state orc m f rest tok) := by
  generalize hs : f.state = s
  cases s <;> simp only [stepFn]
  case s12 =>
    have hi : f.ignore = .none := hf.2 (by simp [hs])
    fun_cases step_s12 orc m f rest tok
    case case2 => exact invM_of _ _ rest rfl ⟨fun _ => rfl, fun _ => hi⟩ hr
    case case4 => exact invM_of m f rest hm hf hr
    all_goals exact invM_of _ _ rest rfl ⟨fun h => absurd hs h, fun _ => hi⟩ hr
  case s13 =>
    have hd : f.depth = 0 := hf.1 (by simp [hs])
    fun_cases step_s13 orc m f rest tok
    · exact invM_of _ _ rest rfl ⟨fun _ => hd, fun _ => rfl⟩ hr
    · exact invM_of m f rest hm hf hr
  all_goals have hc : Clear f := clear_of_inv hf (by simp [hs]) (by simp [hs])
  case s0 =>
    have hc' := handleDeprecated_clear m f hc
    fun_cases step_s0 orc m f rest tok
    all_goals simp only [‹handleDeprecated m f = _›] at hc'
    -- `}` closing a section: the parent, clear while suspended, goes on
    case case3 f' _ p _ _ _ _ _ | case4 f' _ p _ _ _ _ _ _ =>
      obtain ⟨hp, hrs⟩ := List.forall_mem_cons.1 hr
      have hp2 := clear_writeBack p f' hp
      inv_auto hp2 hrs
    all_goals inv_auto hc' hr
  case s1 => fun_cases step_s1 orc m f rest tok <;> inv_auto hc hr
  case s2 => fun_cases step_s2 orc m f rest tok <;> first | inv_auto hc hr | exact storeValue_inv _ _ _ _ _ _ hc hr
  case s3 => fun_cases step_s3 orc m f rest tok <;> first | inv_auto hc hr | exact storeValue_inv _ _ _ _ _ _ hc hr
  case s4 => fun_cases step_s4 orc m f rest tok <;> inv_auto hc hr
  case s5 =>
    fun_cases step_s5 orc m f rest tok
    case case2 => exact invM_of _ _ _ rfl (Clear.inv ⟨rfl, rfl⟩) (List.forall_mem_cons.2 ⟨hc, hr⟩)
    all_goals inv_auto hc hr
  case s6 => fun_cases step_s6 orc m f rest tok <;> inv_auto hc hr
  case s7 => fun_cases step_s7 orc m f rest tok <;> inv_auto hc hr
  case s8 => fun_cases step_s8 orc m f rest tok <;> first | inv_auto hc hr | exact callFunction_inv _ _ _ _ hc hr
  case s9 => fun_cases step_s9 orc m f rest tok <;> first | inv_auto hc hr | exact callFunction_inv _ _ _ _ hc hr
  case s10 =>
    fun_cases step_s10 orc m f rest tok
    case case3 => exact invM_of _ _ rest rfl ⟨fun _ => hc.1, fun h => absurd rfl h⟩ hr
    case case4 => exact invM_of _ _ rest rfl ⟨fun h => absurd rfl h, fun _ => hc.2⟩ hr
    all_goals inv_auto hc hr
  case s11 =>
    fun_cases step_s11 orc m f rest tok
    case case1 => exact invM_of _ _ rest rfl ⟨fun h => absurd rfl h, fun _ => hc.2⟩ hr
    all_goals inv_auto hc hr
  case s14 =>
    fun_cases step_s14 orc m f rest tok
    case case1 => exact invM_of _ _ rest rfl ⟨fun _ => hc.1, fun h => absurd rfl h⟩ hr
    all_goals inv_auto hc hr

theorem pstep_inv (orc : Oracle) (m : PM) (tok : Tok) (nl : Nat) (h : InvM m) : InvM (pstep orc m tok nl) := by
  refine pstep_cases orc m tok nl (fun _ => h) (fun f rest _ hfr => ?_)
  have hF : SkipInv (f.addLine nl) := h.1 f (by simp [hfr])
  have hr : ∀ p ∈ rest, Clear p := fun p hp => h.2 p (by simp [hfr, hp])
  refine stepAt_cases orc _ _ rest tok (fun c => invM_reject _ _ _ hF hr) (fun hs0 _ => ?_) (invM_of _ _ rest rfl hF hr)
    (fun _ => stepFn_inv orc _ _ rest tok rfl hF hr)
  exact invM_of _ _ [] rfl (handleDeprecated_clear _ _ (clear_of_inv hF (by simp [hs0]) (by simp [hs0]))).inv (by simp)

theorem parseToks_inv (orc : Oracle) (ts : List LTok) : ∀ m, InvM m → InvM (parseToks orc m ts) :=
  parseToks_preserves orc (pstep_inv orc) ts

theorem startPM_inv (c : Cfg) (text : Bytes) (k0 : Nat) : InvM (startPM c text k0) := by
  refine invM_of _ _ [] rfl (Clear.inv ⟨rfl, rfl⟩) (by simp)

end Confuse
