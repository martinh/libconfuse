import Confuse.Lemmas.Parser
import Confuse.Lemmas.Store
/-!
# Erasing positions and annotations

`eraseCfg` forgets, at every depth of a configuration tree, the file name and line of each
context and the annotation (comment text and COMMENTS bit) of each option.  `erasePM` does the same
to every frame of a machine, to the pending annotation, to the positions of the diagnostics and to
the saved positions of the source stack.  The erasure of a step's result is determined by the erasure of the machine
it starts from (`pstep_nat`: erasing first changes nothing once the result is erased - the outer `erasePM` stays,
since a step of the erased machine writes line numbers again; `pstep_erase_congr`: equal erasures in, equal erasures
out): values, acceptance, callbacks and the classes of the diagnostics never depend on where a token stood in which
file, nor on annotations.  (`_nat`: naturality with respect to the erasure.)
-/
namespace Confuse

def eraseInfo (i : CfgInfo) : CfgInfo := { i with line := 0, filename := none }

mutual
def eraseVal : Val → Val
  | .sec c => .sec (eraseCfg c)
  | .int n => .int n
  | .flt b => .flt b
  | .bool b => .bool b
  | .str s => .str s
  | .ptr p => .ptr p
def eraseVals : List Val → List Val
  | [] => []
  | v :: vs => eraseVal v :: eraseVals vs
def eraseOpt : Opt → Opt
  | .mk i f s vs _ => .mk i { f with comments := false } s (eraseVals vs) none
def eraseOpts : List Opt → List Opt
  | [] => []
  | o :: os => eraseOpt o :: eraseOpts os
def eraseCfg : Cfg → Cfg
  | .mk i os => .mk (eraseInfo i) (eraseOpts os)
end

theorem eraseVals_eq_map (vs : List Val) : eraseVals vs = vs.map eraseVal := by
  induction vs with
  | nil => rfl
  | cons v vs ih => simp [eraseVals, ih]

theorem eraseOpts_eq_map (os : List Opt) : eraseOpts os = os.map eraseOpt := by
  induction os with
  | nil => rfl
  | cons o os ih => simp [eraseOpts, ih]

@[simp] theorem eraseCfg_info (c : Cfg) : (eraseCfg c).info = eraseInfo c.info := by cases c; rfl
@[simp] theorem eraseCfg_opts (c : Cfg) : (eraseCfg c).opts = c.opts.map eraseOpt := by
  cases c; simp [eraseCfg, Cfg.opts, eraseOpts_eq_map]
@[simp] theorem eraseCfg_flags (c : Cfg) : (eraseCfg c).flags = c.flags := by cases c; rfl
@[simp] theorem eraseInfo_flags (i : CfgInfo) : (eraseInfo i).flags = i.flags := rfl
@[simp] theorem eraseInfo_title (i : CfgInfo) : (eraseInfo i).title = i.title := rfl
@[simp] theorem eraseInfo_name (i : CfgInfo) : (eraseInfo i).name = i.name := rfl
@[simp] theorem eraseInfo_line (i : CfgInfo) : (eraseInfo i).line = 0 := rfl
@[simp] theorem eraseInfo_filename (i : CfgInfo) : (eraseInfo i).filename = none := rfl
@[simp] theorem eraseInfo_idem (i : CfgInfo) : eraseInfo (eraseInfo i) = eraseInfo i := rfl

@[simp] theorem eraseOpt_info (o : Opt) : (eraseOpt o).info = o.info := by cases o; rfl
@[simp] theorem eraseOpt_subs (o : Opt) : (eraseOpt o).subs = o.subs := by cases o; rfl
@[simp] theorem eraseOpt_vals (o : Opt) : (eraseOpt o).vals = o.vals.map eraseVal := by
  cases o; simp [eraseOpt, Opt.vals, eraseVals_eq_map]
@[simp] theorem eraseOpt_comment (o : Opt) : (eraseOpt o).comment = none := by cases o; rfl
@[simp] theorem eraseOpt_name (o : Opt) : (eraseOpt o).name = o.name := by cases o; rfl
@[simp] theorem eraseOpt_ty (o : Opt) : (eraseOpt o).ty = o.ty := by cases o; rfl
@[simp] theorem eraseOpt_flags (o : Opt) : (eraseOpt o).flags = { o.flags with comments := false } := by cases o; rfl
@[simp] theorem eraseOpt_flags_modified (o : Opt) : (eraseOpt o).flags.modified = o.flags.modified := by cases o; rfl

theorem child_erase (c : Cfg) (oi ii : Nat) : (eraseCfg c).child oi ii = (c.child oi ii).map eraseCfg := by
  unfold Cfg.child
  simp only [eraseCfg_opts, List.getElem?_map]
  cases c.opts[oi]? with
  | none => rfl
  | some o =>
    simp only [Option.map_some, eraseOpt_vals, List.getElem?_map]
    cases o.vals[ii]? with
    | none => rfl
    | some v => cases v <;> simp [eraseVal]

theorem getOptAt_erase : ∀ (steps : List (Nat × Nat)) (c : Cfg) (leaf : Nat),
    getOptAt (eraseCfg c) steps leaf = (getOptAt c steps leaf).map eraseOpt := by
  intro steps
  induction steps with
  | nil => intro c leaf; simp [getOptAt]
  | cons st rest ih =>
    intro c leaf
    obtain ⟨oi, ii⟩ := st
    simp only [getOptAt, child_erase]
    cases c.child oi ii with
    | none => rfl
    | some s => simp [ih]

@[simp] theorem getOpt_erase (c : Cfg) (r : OptRef) : (eraseCfg c).getOpt r = (c.getOpt r).map eraseOpt :=
  getOptAt_erase r.steps c r.leaf

theorem setOpts_erase (c : Cfg) (os : List Opt) : eraseCfg (c.setOpts os) = (eraseCfg c).setOpts (os.map eraseOpt) := by
  cases c; simp [Cfg.setOpts, eraseCfg, Cfg.info, eraseOpts_eq_map]

theorem eraseCfg_setInfo (s : Cfg) (i : CfgInfo) : eraseCfg (s.setInfo i) = (eraseCfg s).setInfo (eraseInfo i) := by
  cases s; rfl

theorem eraseCfg_setInfo_pos (s : Cfg) (l : Nat) (fn : Option Bytes) :
    eraseCfg (s.setInfo { s.info with line := l, filename := fn }) = eraseCfg s := by
  cases s; rfl

@[simp] theorem eraseCfg_setLine (c : Cfg) (n : Nat) : eraseCfg (c.setLine n) = eraseCfg c := by cases c; rfl
@[simp] theorem eraseCfg_afterSection (c s : Cfg) : eraseCfg (c.afterSection s) = eraseCfg c := by cases c; rfl

theorem setVals_erase (o : Opt) (vs : List Val) : eraseOpt (o.setVals vs) = (eraseOpt o).setVals (vs.map eraseVal) := by
  cases o; simp [Opt.setVals, eraseOpt, Opt.info, Opt.flags, Opt.subs, Opt.comment, eraseVals_eq_map]

theorem setChild_erase (c : Cfg) (oi ii : Nat) (s : Cfg) :
    eraseCfg (c.setChild oi ii s) = (eraseCfg c).setChild oi ii (eraseCfg s) := by
  unfold Cfg.setChild
  simp only [eraseCfg_opts, List.getElem?_map]
  cases c.opts[oi]? with
  | none => rfl
  | some o => simp [setOpts_erase, listSet_map, setVals_erase, eraseVal]

theorem updOptAt_erase (o : Opt) : ∀ (steps : List (Nat × Nat)) (c : Cfg) (leaf : Nat),
    eraseCfg (updOptAt (fun _ => o) c steps leaf) = updOptAt (fun _ => eraseOpt o) (eraseCfg c) steps leaf := by
  intro steps
  induction steps with
  | nil =>
    intro c leaf
    simp only [updOptAt, eraseCfg_opts, List.getElem?_map]
    cases c.opts[leaf]? with
    | none => rfl
    | some o' => simp [setOpts_erase, listSet_map]
  | cons st rest ih =>
    intro c leaf
    obtain ⟨oi, ii⟩ := st
    simp only [updOptAt, child_erase]
    cases c.child oi ii with
    | none => rfl
    | some s => simp [setChild_erase, ih]

@[simp] theorem setOpt_erase (c : Cfg) (r : OptRef) (o : Opt) : eraseCfg (c.setOpt r o) = (eraseCfg c).setOpt r (eraseOpt o) :=
  updOptAt_erase o r.steps c r.leaf


theorem findOptIdx_erase (nocase : Bool) (name : Bytes) : ∀ (os : List Opt) (i : Nat),
    findOptIdx nocase name (os.map eraseOpt) i = findOptIdx nocase name os i := by
  intro os
  induction os with
  | nil => intro i; rfl
  | cons o os ih => intro i; simp [findOptIdx, ih]

@[simp] theorem getoptLeaf_erase (c : Cfg) (name : Bytes) : getoptLeaf (eraseCfg c) name = getoptLeaf c name := by
  simp [getoptLeaf, findOptIdx_erase]

theorem gettsecidx_go_erase (o : Opt) (title : Bytes) : ∀ (vs : List Val) (i : Nat),
    gettsecidx.go (eraseOpt o) title (vs.map eraseVal) i = gettsecidx.go o title vs i := by
  intro vs
  induction vs with
  | nil => intro i; rfl
  | cons v vs ih =>
    intro i
    cases v <;> simp only [List.map_cons, eraseVal, gettsecidx.go, eraseCfg_info, eraseInfo_title, eraseOpt_flags, ih]

@[simp] theorem gettsecidx_erase (o : Opt) (title : Bytes) : gettsecidx (eraseOpt o) title = gettsecidx o title := by
  simp [gettsecidx, gettsecidx_go_erase]

theorem findTitle_erase (nocase : Bool) (t : Bytes) : ∀ (vs : List Val) (i : Nat),
    findTitle nocase t (vs.map eraseVal) i = findTitle nocase t vs i := by
  intro vs
  induction vs with
  | nil => intro i; rfl
  | cons v vs ih =>
    intro i
    cases v <;> simp only [List.map_cons, eraseVal, findTitle, eraseCfg_info, eraseInfo_title, ih]


theorem pathOpt_erase (sec : Cfg) (secname : Bytes) :
    pathOpt (eraseCfg sec) secname = (pathOpt sec secname).map (fun x => (x.1, eraseOpt x.2)) := by
  unfold pathOpt
  simp only [getoptLeaf_erase, eraseCfg_opts, List.getElem?_map]
  cases getoptLeaf sec secname with
  | none => rfl
  | some oi =>
    simp only []
    cases sec.opts[oi]? with
    | none => rfl
    | some o =>
      simp only [Option.map_some, eraseOpt_ty]
      split <;> rfl

@[simp] theorem pathQual_erase (o : Opt) (after : Bytes) (len : Nat) : pathQual (eraseOpt o) after len = pathQual o after len := by
  unfold pathQual
  simp only [eraseOpt_flags, gettsecidx_erase]

theorem pathInst_erase (o : Opt) (i : Int) : pathInst (eraseOpt o) i = (pathInst o i).map (fun x => (x.1, eraseCfg x.2)) := by
  unfold pathInst
  simp only [eraseOpt_vals, List.length_map, List.getElem?_map]
  split
  · cases o.vals[i.toNat]? with
    | none => rfl
    | some v => cases v <;> simp [eraseVal]
  · rfl

theorem secidxLoop_erase (w : Bool) : ∀ (fuel : Nat) (sec : Cfg) (steps : List (Nat × Nat)) (lo : Option OptRef) (li : Int) (name : Bytes),
    secidxLoop w fuel (eraseCfg sec) steps lo li name = secidxLoop w fuel sec steps lo li name := by
  intro fuel
  induction fuel with
  | zero => intros; rfl
  | succ n ih =>
    intro sec steps lo li name
    rw [secidxLoop, secidxLoop]
    simp only [getoptLeaf_erase, pathOpt_erase]
    cases pathOpt sec (List.takeWhile (fun c => !isSep c) name) with
    | none => rfl
    | some x =>
      obtain ⟨oi, o⟩ := x
      simp only [Option.map_some, pathQual_erase, pathInst_erase, eraseOpt_flags]
      cases pathInst o (pathQual o (List.drop (List.takeWhile (fun c => !isSep c) name).length name) (List.takeWhile (fun c => !isSep c) name).length).1 with
      | none => rfl
      | some y =>
        obtain ⟨ii, s⟩ := y
        simp only [Option.map_some, ih]

@[simp] theorem keyFirst_erase (c : Cfg) (name : Bytes) (w : Bool) : keyFirst (eraseCfg c) name w = keyFirst c name w := by
  unfold keyFirst
  simp only [getoptLeaf_erase, eraseCfg_flags]

@[simp] theorem getoptPath_erase (c : Cfg) (name : Bytes) : getoptPath (eraseCfg c) name = getoptPath c name := by
  unfold getoptPath getoptSecidx
  simp only [secidxLoop_erase, eraseCfg_flags, keyFirst_erase]


mutual
theorem freeEvVal_erase (cb : Bool) : ∀ v : Val, freeEvVal cb (eraseVal v) = freeEvVal cb v
  | .sec c => by simp only [eraseVal, freeEvVal]; exact freeEvCfg_erase c
  | .int _ => rfl
  | .flt _ => rfl
  | .bool _ => rfl
  | .str _ => rfl
  | .ptr _ => rfl
theorem freeEvVals_erase (cb : Bool) : ∀ vs : List Val, freeEvVals cb (eraseVals vs) = freeEvVals cb vs
  | [] => rfl
  | v :: vs => by simp only [eraseVals, freeEvVals, freeEvVal_erase cb v, freeEvVals_erase cb vs]
theorem freeEvOpt_erase : ∀ o : Opt, freeEvOpt (eraseOpt o) = freeEvOpt o
  | .mk i f s vs c => by simp only [eraseOpt, freeEvOpt, freeEvVals_erase]
theorem freeEvOpts_erase : ∀ os : List Opt, freeEvOpts (eraseOpts os) = freeEvOpts os
  | [] => rfl
  | o :: os => by simp only [eraseOpts, freeEvOpts, freeEvOpt_erase o, freeEvOpts_erase os]
theorem freeEvCfg_erase : ∀ c : Cfg, freeEvCfg (eraseCfg c) = freeEvCfg c
  | .mk i os => by simp only [eraseCfg, freeEvCfg, freeEvOpts_erase]
end

theorem freeValue_erase (o : Opt) : freeValue (eraseOpt o) = (eraseOpt (freeValue o).1, (freeValue o).2) := by
  rw [freeValue, freeValue, freeEvOpt_erase]
  simp only [eraseOpt_info, eraseOpt_flags, eraseOpt_subs, eraseOpt_comment, ite_self, eraseOpt, eraseVals]

theorem dropDefaults_erase (o : Opt) : dropDefaults (eraseOpt o) = (eraseOpt (dropDefaults o).1, (dropDefaults o).2) := by
  rw [dropDefaults_eq, dropDefaults_eq, freeEvOpt_erase, eraseOpt]
  simp only [eraseOpt_info, eraseOpt_flags, eraseOpt_subs, eraseOpt_comment, Opt.base, eraseOpt_vals, eraseVals_eq_map]
  split <;> rfl

@[simp] theorem setoptConvert_erase (orc : Oracle) (k : Nat) (o : Opt) (v : Option Bytes) :
    setoptConvert orc k (eraseOpt o) v = setoptConvert orc k o v := by
  unfold setoptConvert
  simp only [eraseOpt_name, eraseOpt_ty, eraseOpt_info]


theorem sectionInfo_erase (ci : CfgInfo) (name : Bytes) (fl : Flags) (t : Option Bytes) :
    sectionInfo (eraseInfo ci) name fl t = eraseInfo (sectionInfo ci name fl t) := rfl

mutual
theorem mkOpt_erase (ci : CfgInfo) : ∀ d : Decl, eraseOpt (mkOpt (eraseInfo ci) d) = eraseOpt (mkOpt ci d)
  | .mk info flags subs => by
    rcases mkOpt_cases ci info flags subs with h | ⟨h, -⟩
    · rw [h, h]
      simp only [sectionInfo_erase, eraseOpt, eraseVals, eraseVal, eraseCfg, eraseInfo_idem,
        mkOpts_erase (sectionInfo ci info.name flags none) subs]
    · rw [h]
theorem mkOpts_erase (ci : CfgInfo) : ∀ ds : List Decl, eraseOpts (mkOpts (eraseInfo ci) ds) = eraseOpts (mkOpts ci ds)
  | [] => rfl
  | d :: ds => by simp only [mkOpts, eraseOpts, mkOpt_erase ci d, mkOpts_erase ci ds]
end

theorem mkSection_erase (ci : CfgInfo) (o : Opt) (t : Option Bytes) :
    eraseCfg (mkSection (eraseInfo ci) (eraseOpt o) t) = eraseCfg (mkSection ci o t) := by
  simp only [mkSection, eraseOpt_name, eraseOpt_subs, eraseCfg, sectionInfo_erase, eraseInfo_idem]
  have h1 : sectionInfo ci o.name (eraseOpt o).flags t = sectionInfo ci o.name o.flags t := by
    simp [sectionInfo]
  rw [h1, mkOpts_erase]


mutual
theorem eraseVal_idem : ∀ v : Val, eraseVal (eraseVal v) = eraseVal v
  | .sec c => by simp only [eraseVal, eraseCfg_idem c]
  | .int _ => rfl
  | .flt _ => rfl
  | .bool _ => rfl
  | .str _ => rfl
  | .ptr _ => rfl
theorem eraseVals_idem : ∀ vs : List Val, eraseVals (eraseVals vs) = eraseVals vs
  | [] => rfl
  | v :: vs => by simp only [eraseVals, eraseVal_idem v, eraseVals_idem vs]
theorem eraseOpt_idem : ∀ o : Opt, eraseOpt (eraseOpt o) = eraseOpt o
  | .mk i f s vs c => by simp only [eraseOpt, eraseVals_idem]
theorem eraseOpts_idem : ∀ os : List Opt, eraseOpts (eraseOpts os) = eraseOpts os
  | [] => rfl
  | o :: os => by simp only [eraseOpts, eraseOpt_idem o, eraseOpts_idem os]
theorem eraseCfg_idem : ∀ c : Cfg, eraseCfg (eraseCfg c) = eraseCfg c
  | .mk i os => by simp only [eraseCfg, eraseOpts_idem, eraseInfo_idem]
end
attribute [simp] eraseVal_idem eraseOpt_idem eraseCfg_idem
@[simp] theorem eraseVal_comp : eraseVal ∘ eraseVal = eraseVal := funext eraseVal_idem
@[simp] theorem eraseOpt_comp : eraseOpt ∘ eraseOpt = eraseOpt := funext eraseOpt_idem


@[simp] theorem eraseOpt_setFlags (o : Opt) (F : Flags) :
    eraseOpt (o.setFlags F) = (eraseOpt o).setFlags { F with comments := false } := by
  cases o; simp [eraseOpt, Opt.setFlags, Opt.info, Opt.subs, Opt.vals, Opt.comment]

theorem setoptStore_erase (ci : CfgInfo) (o1 : Opt) (cv : Conv) (v : Option Bytes) (app : Bool) (found : Option Nat) :
    (setoptStore (eraseInfo ci) (eraseOpt o1) cv v app found).1 = (setoptStore ci o1 cv v app found).1 ∧
    (setoptStore (eraseInfo ci) (eraseOpt o1) cv v app found).2.1.map eraseVal = (setoptStore ci o1 cv v app found).2.1.map eraseVal ∧
    (setoptStore (eraseInfo ci) (eraseOpt o1) cv v app found).2.2 = (setoptStore ci o1 cv v app found).2.2 := by
  unfold setoptStore
  simp only [eraseOpt_vals, List.length_map, List.getElem?_map, eraseOpt_flags, eraseOpt_info]
  generalize hidx : (if app = true then (match found with | some i => i | none => o1.vals.length) else 0) = idx
  generalize hnew : (app && found.isNone) = isNew
  cases isNew with
  | true =>
    simp only [if_true]
    refine ⟨trivial, ?_, ?_⟩
    · cases cv <;> simp [eraseVal, mkSection_erase]
    · cases cv <;> simp
  | false =>
    simp only [Bool.false_eq_true, if_false]
    cases hold : o1.vals[idx]? with
    | none =>
      refine ⟨trivial, ?_, ?_⟩
      · cases cv <;> simp [listSet_map, eraseVal, mkSection_erase]
      · cases cv <;> simp
    | some old =>
      simp only [Option.map_some]
      refine ⟨trivial, ?_, ?_⟩
      · cases cv <;> cases old <;> simp [listSet_map, eraseVal, mkSection_erase]
        all_goals (split <;> simp [eraseVal, mkSection_erase])
      · cases cv <;> cases old <;> simp [eraseVal, freeEvCfg_erase]


def SRel (a b : SetOut) : Prop :=
  eraseOpt a.opt = eraseOpt b.opt ∧ a.res = b.res ∧ a.diags = b.diags ∧ a.calls = b.calls

theorem srel_ite (c : Prop) [Decidable c] (a a' b b' : SetOut) (h1 : SRel a a') (h2 : SRel b b') :
    SRel (if c then a else b) (if c then a' else b') := by
  split <;> assumption

theorem setopt_erase (orc : Oracle) (k : Nat) (ci : CfgInfo) (o : Opt) (v : Option Bytes) :
    SRel (setopt orc k (eraseInfo ci) (eraseOpt o) v) (setopt orc k ci o v) := by
  unfold setopt
  simp only [setoptConvert_erase, dropDefaults_erase]
  cases hcv : setoptConvert orc k o v with
  | error e => simp [SRel]
  | ok p =>
    generalize dropDefaults o = dd
    obtain ⟨o1, ev1⟩ := dd
    simp only [eraseOpt_vals, List.length_map, eraseOpt_flags, eraseOpt_ty, eraseInfo_flags, findTitle_erase]
    refine srel_ite _ _ _ _ _ (by simp [SRel]) (srel_ite _ _ _ _ _ (by simp [SRel]) ?_)
    refine ⟨?_, ?_, rfl, ?_⟩
    · simp only [eraseOpt, eraseOpt_info, eraseOpt_subs, eraseVals_eq_map]
      rw [(setoptStore_erase ci o1 p.1 v _ _).2.1]
    · exact congrArg some (setoptStore_erase ci o1 p.1 v _ _).1
    · rw [(setoptStore_erase ci o1 p.1 v _ _).2.2]


def eraseFrame (f : Frame) : Frame := { f with cfg := eraseCfg f.cfg, comment := none }
def eraseDiag (d : Diag) : Diag := { d with file := none, line := 0 }
def eraseSrc (s : Src) : Src := { s with savedFile := none, savedLine := 0 }
def erasePM (m : PM) : PM :=
  { m with frames := m.frames.map eraseFrame, diags := m.diags.map eraseDiag, srcs := m.srcs.map eraseSrc }

@[simp] theorem eraseFrame_idem (f : Frame) : eraseFrame (eraseFrame f) = eraseFrame f := by
  simp [eraseFrame]
@[simp] theorem eraseFrame_comp : eraseFrame ∘ eraseFrame = eraseFrame := funext eraseFrame_idem
@[simp] theorem eraseDiag_idem (d : Diag) : eraseDiag (eraseDiag d) = eraseDiag d := rfl
@[simp] theorem eraseSrc_idem (s : Src) : eraseSrc (eraseSrc s) = eraseSrc s := rfl
@[simp] theorem erasePM_idem (m : PM) : erasePM (erasePM m) = erasePM m := by
  simp [erasePM]

@[simp] theorem erasePM_status (m : PM) : (erasePM m).status = m.status := rfl
@[simp] theorem erasePM_trace (m : PM) : (erasePM m).trace = m.trace := rfl
@[simp] theorem erasePM_k (m : PM) : (erasePM m).k = m.k := rfl
@[simp] theorem eraseFrame_state (f : Frame) : (eraseFrame f).state = f.state := rfl
@[simp] theorem eraseFrame_opt (f : Frame) : (eraseFrame f).opt = f.opt := rfl
@[simp] theorem eraseFrame_level (f : Frame) : (eraseFrame f).level = f.level := rfl
@[simp] theorem eraseFrame_cfg (f : Frame) : (eraseFrame f).cfg = eraseCfg f.cfg := rfl
@[simp] theorem eraseFrame_comment (f : Frame) : (eraseFrame f).comment = none := rfl
@[simp] theorem eraseFrame_back (f : Frame) : (eraseFrame f).back = f.back := rfl
@[simp] theorem eraseFrame_mk (cfg : Cfg) (level : Nat) (state : PState) (opt : Option OptRef) (comment opttitle : Option Bytes)
    (funcargs : List Bytes) (ignore : Ignore) (depth numValues : Nat) (back : Option (OptRef × Nat)) :
    eraseFrame ⟨cfg, level, state, opt, comment, opttitle, funcargs, ignore, depth, numValues, back⟩ =
      ⟨eraseCfg cfg, level, state, opt, none, opttitle, funcargs, ignore, depth, numValues, back⟩ := rfl
@[simp] theorem eraseFrame_opttitle (f : Frame) : (eraseFrame f).opttitle = f.opttitle := rfl
@[simp] theorem eraseFrame_funcargs (f : Frame) : (eraseFrame f).funcargs = f.funcargs := rfl
@[simp] theorem eraseFrame_ignore (f : Frame) : (eraseFrame f).ignore = f.ignore := rfl
@[simp] theorem eraseFrame_depth (f : Frame) : (eraseFrame f).depth = f.depth := rfl
@[simp] theorem eraseFrame_numValues (f : Frame) : (eraseFrame f).numValues = f.numValues := rfl
@[simp] theorem erasePM_erase_frames (m : PM) : (erasePM m).frames = m.frames.map eraseFrame := rfl
@[simp] theorem erasePM_mk (frames : List Frame) (srcs : List Src) (status : Status) (diags : List Diag) (trace : List CbCall)
    (pi : Option Bytes) (md : Nat) :
    erasePM ⟨frames, srcs, status, diags, trace, pi, md⟩ =
      ⟨frames.map eraseFrame, srcs.map eraseSrc, status, diags.map eraseDiag, trace, pi, md⟩ := rfl
@[simp] theorem erasePM_srcs (m : PM) : (erasePM m).srcs = m.srcs.map eraseSrc := rfl
@[simp] theorem erasePM_diags (m : PM) : (erasePM m).diags = m.diags.map eraseDiag := rfl
@[simp] theorem erasePM_pendingInclude (m : PM) : (erasePM m).pendingInclude = m.pendingInclude := rfl
@[simp] theorem erasePM_maxDepth (m : PM) : (erasePM m).maxDepth = m.maxDepth := rfl

@[simp] theorem eraseDiag_diag (f : Frame) (c : DiagCls) : eraseDiag (f.diag c) = (eraseFrame f).diag c := by
  simp [Frame.diag, eraseDiag, eraseFrame]

@[simp] theorem eraseDiag_comp_diag (f : Frame) : eraseDiag ∘ f.diag = (eraseFrame f).diag := funext (eraseDiag_diag f)

theorem eraseFrame_diag_any (f g : Frame) (c : DiagCls) : (eraseFrame f).diag c = (eraseFrame g).diag c := by
  simp [Frame.diag, eraseFrame]

theorem writeBack_erase (p c : Frame) : eraseFrame (writeBack p c) = writeBack (eraseFrame p) (eraseFrame c) := by
  unfold writeBack
  simp only [eraseFrame_back, eraseFrame_cfg, getOpt_erase]
  cases c.back with
  | none => rfl
  | some ri =>
    obtain ⟨r, i⟩ := ri
    simp only []
    cases p.cfg.getOpt r with
    | none => rfl
    | some o =>
      simp only [Option.map_some]
      simp [eraseFrame, setVals_erase, listSet_map, eraseVal]

theorem collapseInto_erase (c : Frame) (ps : List Frame) :
    eraseFrame (collapseInto c ps) = collapseInto (eraseFrame c) (ps.map eraseFrame) := by
  induction ps generalizing c with
  | nil => rfl
  | cons p ps ih => simp only [collapseInto, List.map_cons, ih, writeBack_erase]

theorem collapse_erase (fs : List Frame) :
    (collapse (fs.map eraseFrame)).map (fun f => f.cfg) = (collapse fs).map (fun f => eraseCfg f.cfg) := by
  cases fs with
  | nil => rfl
  | cons f rest => simp [collapse, ← collapseInto_erase]

theorem reject_erase (m : PM) (f : Frame) (rest : List Frame) :
    erasePM (m.reject f rest) = (erasePM m).reject (eraseFrame f) (rest.map eraseFrame) := by
  simp [reject_eq, erasePM, collapseInto_erase]

theorem addDiags_erase (m : PM) (f : Frame) (cs : List DiagCls) :
    erasePM (m.addDiags f cs) = (erasePM m).addDiags (eraseFrame f) cs := by
  simp [PM.addDiags, erasePM, List.map_reverse, Function.comp_def]

theorem addCalls_erase (m : PM) (cs : List CbCall) : erasePM (m.addCalls cs) = (erasePM m).addCalls cs := by
  simp [PM.addCalls, erasePM]

theorem rejectWith_erase (m : PM) (f : Frame) (rest : List Frame) (c : DiagCls) :
    erasePM (m.rejectWith f rest c) = (erasePM m).rejectWith (eraseFrame f) (rest.map eraseFrame) c := by
  simp [PM.rejectWith, reject_erase, addDiags_erase]


theorem snap_erase (v : Val) : (eraseVal v).snap = v.snap := by
  cases v <;> simp [eraseVal, Val.snap]
theorem snap_comp_erase : Val.snap ∘ eraseVal = Val.snap := funext snap_erase

theorem depEffect_erase (f : Frame) :
    depEffect (eraseFrame f) = ((depEffect f).1, (depEffect f).2.1, eraseFrame (depEffect f).2.2) := by
  unfold depEffect
  simp only [eraseFrame_opt, eraseFrame_cfg, getOpt_erase]
  cases f.opt with
  | none => rfl
  | some r =>
    simp only []
    cases f.cfg.getOpt r with
    | none => rfl
    | some o =>
      simp only [Option.map_some, eraseOpt_flags, freeValue_erase]
      split
      · split
        · simp [eraseFrame]
        · rfl
      · rfl

@[simp] theorem validVerdict_erase (orc : Oracle) (k : Nat) (f : Frame) : validVerdict orc k (eraseFrame f) = validVerdict orc k f := by
  unfold validVerdict
  simp only [eraseFrame_opt, eraseFrame_cfg, getOpt_erase]
  cases f.opt with
  | none => rfl
  | some r =>
    simp only []
    cases f.cfg.getOpt r with
    | none => rfl
    | some o =>
      simp only [Option.map_some, eraseOpt_info, eraseOpt_name, eraseOpt_vals, List.map_map, snap_comp_erase]

theorem vetoed_erase (orc : Oracle) (m : PM) (f : Frame) :
    erasePM (vetoed orc m f) = vetoed orc (erasePM m) (eraseFrame f) := by
  unfold vetoed
  simp only [eraseFrame_opt, eraseFrame_cfg, getOpt_erase]
  cases f.opt with
  | none => rfl
  | some r =>
    simp only []
    cases f.cfg.getOpt r with
    | none => rfl
    | some o =>
      simp only [Option.map_some, eraseOpt_name, eraseOpt_vals, List.map_map, addDiags_erase, addCalls_erase, snap_comp_erase]


theorem inheritComment_erase (f : Frame)
    (hmod : ∀ r o, f.opt = some r → f.cfg.getOpt r = some o → o.flags.modified = true) :
    eraseFrame (inheritComment f) = eraseFrame f := by
  rcases inheritComment_cases f with e | ⟨c, r, o, -, hopt, hget, e⟩ <;> rw [e]
  · rfl
  · have hm := hmod r o hopt hget
    have e' : eraseOpt (Opt.mk o.info { o.flags with comments := true, modified := true } o.subs o.vals (some c)) = eraseOpt o := by
      obtain ⟨i, fl, sb, vs, cm⟩ := o
      simp only [Opt.flags] at hm
      simp [eraseOpt, Opt.info, Opt.flags, Opt.subs, Opt.vals, hm]
    have hg : (eraseCfg f.cfg).getOpt r = some (eraseOpt o) := by simp [hget]
    simp only [eraseFrame, setOpt_erase, e', setOpt_self _ r _ hg]

theorem inheritComment_erased (f : Frame) : inheritComment (eraseFrame f) = eraseFrame f :=
  inheritComment_none _ rfl


theorem eraseCfg_eq_info {c c' : Cfg} (h : eraseCfg c = eraseCfg c') : eraseInfo c.info = eraseInfo c'.info := by
  have := congrArg Cfg.info h; simpa using this

theorem eraseCfg_eq_getOpt {c c' : Cfg} (h : eraseCfg c = eraseCfg c') (r : OptRef) :
    (c.getOpt r).map eraseOpt = (c'.getOpt r).map eraseOpt := by
  rw [← getOpt_erase, ← getOpt_erase, h]

theorem getoptPath_of_erase {c c' : Cfg} (h : eraseCfg c = eraseCfg c') (v : Bytes) : getoptPath c v = getoptPath c' v := by
  rw [← getoptPath_erase c v, ← getoptPath_erase c' v, h]


theorem diags_cls_of_erase {a b : List Diag} (h : a.map eraseDiag = b.map eraseDiag) : a.map (·.cls) = b.map (·.cls) := by
  have := congrArg (List.map (·.cls)) h
  simpa [Function.comp_def, eraseDiag] using this

theorem eraseFrame_setPos (f : Frame) (l : Nat) (fn : Option Bytes) :
    eraseFrame { f with cfg := f.cfg.setInfo { f.cfg.info with filename := fn, line := l } } = eraseFrame f :=
  congrArg (fun c => ({ eraseFrame f with cfg := c } : Frame)) (eraseCfg_setInfo_pos f.cfg l fn)

theorem eraseFrame_eq_iff (f f' : Frame) : eraseFrame f = eraseFrame f' ↔
    (eraseCfg f.cfg = eraseCfg f'.cfg ∧ f.level = f'.level ∧ f.state = f'.state ∧ f.opt = f'.opt ∧ f.opttitle = f'.opttitle ∧
      f.funcargs = f'.funcargs ∧ f.ignore = f'.ignore ∧ f.depth = f'.depth ∧ f.numValues = f'.numValues ∧ f.back = f'.back) := by
  cases f; cases f'
  simp [eraseFrame]

theorem erasePM_setFrames (m : PM) (fs : List Frame) : erasePM { m with frames := fs } = { erasePM m with frames := fs.map eraseFrame } := rfl

/-- pushes `erasePM` inwards through the primitives; the two sides then differ by erasures of erasures -/
macro "nat_simp" : tactic =>
  `(tactic| simp [reject_erase, rejectWith_erase, addDiags_erase, addCalls_erase])

/-- the shape `cfg_setopt` / `}` end in (ask the validation callback, reject on a veto, go on otherwise) sees its
machine and frames only through their erasures -/
theorem validThen_erase (orc : Oracle) (m m' : PM) (g g' h h' : Frame) (rs rs' : List Frame)
    (hm : erasePM m = erasePM m') (hg : eraseFrame g = eraseFrame g') (hh : eraseFrame h = eraseFrame h')
    (hr : rs.map eraseFrame = rs'.map eraseFrame) :
    erasePM (match runValid orc m g with
      | none => (vetoed orc m g).reject g rs
      | some m1 => { m1 with frames := h :: rs }) =
    erasePM (match runValid orc m' g' with
      | none => (vetoed orc m' g').reject g' rs'
      | some m1 => { m1 with frames := h' :: rs' }) := by
  have hv : validVerdict orc m.k g = validVerdict orc m'.k g' := by
    rw [← validVerdict_erase, hg, validVerdict_erase, show m.k = m'.k from (congrArg PM.k hm :)]
  simp only [runValid_spec, hv]
  cases validVerdict orc m'.k g' with
  | none => simp only [Option.map_none, reject_erase, vetoed_erase, hm, hg, hr]
  | some cs => simp only [Option.map_some, erasePM_setFrames, addCalls_erase, hm, List.map_cons, hh, hr]

theorem storeValue_nat (orc : Oracle) (m : PM) (f : Frame) (rest : List Frame) (v : Bytes) (next : PState) :
    erasePM (storeValue orc m f rest v next) =
      erasePM (storeValue orc (erasePM m) (eraseFrame f) (rest.map eraseFrame) v next) := by
  unfold storeValue
  simp only [eraseFrame_opt, eraseFrame_cfg, getOpt_erase, erasePM_k, eraseCfg_info]
  cases hopt : f.opt with
  | none => nat_simp
  | some r =>
    simp only []
    cases hget : f.cfg.getOpt r with
    | none => nat_simp
    | some o =>
      simp only [Option.map_some]
      obtain ⟨e1, e2, e3, e4⟩ := setopt_erase orc m.k f.cfg.info o (some v)
      have hmod := setopt_modified orc m.k f.cfg.info o (some v)
      generalize setopt orc m.k f.cfg.info o (some v) = out at *
      generalize setopt orc m.k (eraseInfo f.cfg.info) (eraseOpt o) (some v) = out' at *
      have hf1 : eraseFrame { f with cfg := f.cfg.setOpt r out.opt, opt := some r } = eraseFrame { eraseFrame f with cfg := (eraseCfg f.cfg).setOpt r out'.opt, opt := some r } := by
        simp [eraseFrame, e1, eraseCfg_idem]
      have hm1 : erasePM ((m.addCalls out.calls).addDiags { f with cfg := f.cfg.setOpt r out.opt, opt := some r } out.diags) =
          erasePM (((erasePM m).addCalls out'.calls).addDiags { eraseFrame f with cfg := (eraseCfg f.cfg).setOpt r out'.opt, opt := some r } out'.diags) := by
        simp only [addDiags_erase, addCalls_erase, erasePM_idem, hf1, e3, e4]
      rw [e2]
      cases hres : out.res with
      | none => simp only [reject_erase, hm1, hf1, List.map_map, eraseFrame_comp]
      | some i =>
        refine validThen_erase orc _ _ _ _ _ _ _ _ hm1 hf1 ?_ (by simp)
        -- the real side attaches the comment to an option the store has marked modified; the erased side has none pending
        have hic := inheritComment_erase { f with cfg := f.cfg.setOpt r out.opt, opt := some r } (fun r2 o2 hr2 ho2 => by
          cases hr2
          cases (getOpt_setOpt f.cfg r o out.opt hget).symm.trans ho2
          exact hmod (by simp [hres]))
        rw [inheritComment_none { eraseFrame f with cfg := (eraseCfg f.cfg).setOpt r out'.opt, opt := some r } rfl]
        rw [← hic] at hf1
        rw [eraseFrame_eq_iff] at hf1 ⊢
        simp [hf1]

theorem callFunction_nat (orc : Oracle) (m : PM) (f : Frame) (rest : List Frame) :
    erasePM (callFunction orc m f rest) = erasePM (callFunction orc (erasePM m) (eraseFrame f) (rest.map eraseFrame)) := by
  unfold callFunction
  simp only [eraseFrame_opt, eraseFrame_cfg, getOpt_erase, erasePM_k, eraseFrame_funcargs]
  cases f.opt with
  | none => nat_simp
  | some r =>
    simp only []
    cases f.cfg.getOpt r with
    | none => nat_simp
    | some o =>
      simp only [Option.map_some, eraseOpt_info, eraseOpt_name]
      cases o.info.func with
      | none => nat_simp
      | incl => simp only []; split <;> nat_simp
      | user => simp only []; split <;> nat_simp

theorem bind_getOpt_erase (f : Frame) :
    (eraseFrame f).opt.bind (eraseFrame f).cfg.getOpt = (f.opt.bind f.cfg.getOpt).map eraseOpt := by
  cases h : f.opt <;> simp [h]

theorem step_s2_nat (orc : Oracle) (m : PM) (f : Frame) (rest : List Frame) (tok : Tok) :
    erasePM (step_s2 orc m f rest tok) = erasePM (step_s2 orc (erasePM m) (eraseFrame f) (rest.map eraseFrame) tok) := by
  unfold step_s2
  simp only [bind_getOpt_erase]
  cases hb : f.opt.bind f.cfg.getOpt with
  | none =>
    simp only [Option.map_none]
    cases tok with
    | str v => exact storeValue_nat orc m f rest v _
    | _ => nat_simp
  | some o =>
    simp only [Option.map_some, eraseOpt_flags]
    cases tok with
    | str v => exact storeValue_nat orc m f rest v _
    | rbrace =>
      simp only [eraseFrame_opt, eraseFrame_numValues, eraseFrame_cfg]
      split
      · cases hopt : f.opt with
        | none => nat_simp
        | some r =>
          by_cases h1 : f.numValues = 0 <;> by_cases h2 : o.flags.reset = true <;>
            simp [h1, h2, freeValue_erase]
      · nat_simp
    | _ => nat_simp

theorem step_s5_nat (orc : Oracle) (m : PM) (f : Frame) (rest : List Frame) (tok : Tok) :
    erasePM (step_s5 orc m f rest tok) = erasePM (step_s5 orc (erasePM m) (eraseFrame f) (rest.map eraseFrame) tok) := by
  unfold step_s5
  cases tok with
  | lbrace =>
    simp only [eraseFrame_opt]
    cases hopt : f.opt with
    | none => nat_simp
    | some r =>
      simp only [Option.bind_some]
      cases hget : f.cfg.getOpt r with
      | none => simp [hget, reject_erase]
      | some o =>
        simp only [eraseFrame_cfg, getOpt_erase, hget, Option.map_some, erasePM_k, eraseCfg_info, eraseFrame_opttitle]
        have hs := setopt_erase orc m.k f.cfg.info o f.opttitle
        generalize setopt orc m.k f.cfg.info o f.opttitle = out at hs ⊢
        generalize setopt orc m.k (eraseInfo f.cfg.info) (eraseOpt o) f.opttitle = out' at hs ⊢
        obtain ⟨e1, e2, e3, e4⟩ := hs
        rw [e2]
        cases hres : out.res with
        | none =>
          simp only [reject_erase, addDiags_erase, addCalls_erase, e3, e4]
          simp [e1]
        | some i =>
          simp only []
          -- the cells handed back on the two sides have equal erasures: both hold sections with equal erasures, or neither does
          have hv : (out'.opt.vals[i]?).map eraseVal = (out.opt.vals[i]?).map eraseVal := by
            have := congrArg Opt.vals e1
            simp only [eraseOpt_vals] at this
            rw [← List.getElem?_map, ← List.getElem?_map, this]
          cases h1 : out.opt.vals[i]? with
          | none =>
            cases h2 : out'.opt.vals[i]? with
            | none =>
              simp only [reject_erase, addDiags_erase, addCalls_erase, e3, e4]
              simp [e1]
            | some v2 => simp [h1, h2] at hv
          | some v1 =>
            cases h2 : out'.opt.vals[i]? with
            | none => simp [h1, h2] at hv
            | some v2 =>
              have hvv : eraseVal v2 = eraseVal v1 := by simpa [h1, h2] using hv
              cases v1 with
              | sec s =>
                cases v2 with
                | sec s' =>
                  have hss : eraseCfg s' = eraseCfg s := by simpa [eraseVal] using hvv
                  have hi := eraseCfg_eq_info hss
                  simp only [eraseInfo, CfgInfo.mk.injEq] at hi
                  obtain ⟨hi1, hi2, hi3, _, _, hi6⟩ := hi
                  simp [e1, e3, e4, eraseCfg_setInfo, hss, eraseInfo, hi1, hi2, hi3, hi6, Function.comp_def, Frame.diag, eraseDiag]
                | _ => simp [eraseVal] at hvv
              | _ =>
                cases v2 with
                | sec s' => simp [eraseVal] at hvv
                | _ =>
                  simp only [reject_erase, addDiags_erase, addCalls_erase, e3, e4]
                  simp [e1]
  | _ => nat_simp

theorem step_s0_nat (orc : Oracle) (m : PM) (f : Frame) (rest : List Frame) (tok : Tok) :
    erasePM (step_s0 orc m f rest tok) = erasePM (step_s0 orc (erasePM m) (eraseFrame f) (rest.map eraseFrame) tok) := by
  unfold step_s0
  simp only [handleDeprecated_spec, depEffect_erase]
  generalize depEffect f = e
  obtain ⟨ds, ev, f'⟩ := e
  cases tok with
  | rbrace =>
    cases rest with
    | nil => nat_simp
    | cons p rest' =>
      simp only [List.map_cons, eraseFrame_level]
      split
      · nat_simp
      · refine validThen_erase orc _ _ _ _ _ _ rest' _ (by simp [addCalls_erase, addDiags_erase]) ?_ ?_ (by simp)
        all_goals rw [← writeBack_erase]; simp [eraseFrame]
  | comment v =>
    simp only [eraseFrame_cfg, eraseCfg_flags]
    split <;> nat_simp
  | str v =>
    simp only [eraseFrame_cfg, getoptPath_erase, eraseCfg_flags]
    generalize getoptPath f'.cfg v = gp
    cases gp.ref with
    | none =>
      simp only []
      split
      · nat_simp
      · split
        · nat_simp
          simp [setOpts_erase, eraseOpt, eraseVals]
        · split <;> nat_simp
    | some ref =>
      simp only [getOpt_erase]
      cases f'.cfg.getOpt ref with
      | none => nat_simp
      | some o => simp only [Option.map_some, eraseOpt_ty, eraseOpt_flags]; nat_simp
  | _ => nat_simp

theorem eraseFrame_addLine (f : Frame) (n : Nat) : eraseFrame (f.addLine n) = eraseFrame f := by
  simp [Frame.addLine, eraseFrame]

theorem stepFn_nat (s : PState) (orc : Oracle) (m : PM) (f : Frame) (rest : List Frame) (tok : Tok) :
    erasePM (stepFn s orc m f rest tok) = erasePM (stepFn s orc (erasePM m) (eraseFrame f) (rest.map eraseFrame) tok) := by
  cases s <;> simp only [stepFn]
  case s0 => exact step_s0_nat orc m f rest tok
  case s1 =>
    simp only [step_s1, eraseFrame_opt, eraseFrame_cfg, getOpt_erase]
    cases f.opt with
    | none => nat_simp
    | some r =>
      simp only []
      cases f.cfg.getOpt r with
      | none => nat_simp
      | some o =>
        simp only [Option.map_some, eraseOpt_flags]
        split
        · split <;> nat_simp
        · nat_simp
        · nat_simp
  case s2 => exact step_s2_nat orc m f rest tok
  case s3 => simp only [step_s3]; split <;> first | exact storeValue_nat orc m f rest _ _ | nat_simp
  case s4 =>
    simp only [step_s4]
    split
    · nat_simp
    · exact validThen_erase orc m _ f _ _ _ rest _ (erasePM_idem m).symm (eraseFrame_idem f).symm (by simp [eraseFrame]) (by simp)
    · nat_simp
  case s5 => exact step_s5_nat orc m f rest tok
  case s6 => simp only [step_s6]; split <;> nat_simp
  case s7 => simp only [step_s7]; split <;> nat_simp
  case s8 => simp only [step_s8]; split <;> first | exact callFunction_nat orc m f rest | nat_simp
  case s9 => simp only [step_s9]; split <;> first | exact callFunction_nat orc m f rest | nat_simp
  case s10 => simp only [step_s10]; split <;> nat_simp
  case s11 => simp only [step_s11]; split <;> nat_simp
  case s12 =>
    simp only [step_s12]
    split
    · nat_simp
    · split <;> simp [*]
    · rw [erasePM_idem]
  case s13 => simp only [step_s13, eraseFrame_ignore]; split <;> simp [*]
  case s14 => simp only [step_s14]; split <;> nat_simp

theorem stepAt_nat (orc : Oracle) (M : PM) (f : Frame) (rest : List Frame) (tok : Tok) :
    erasePM (stepAt orc M f rest tok) = erasePM (stepAt orc (erasePM M) (eraseFrame f) (rest.map eraseFrame) tok) := by
  by_cases hin : tok.inner = true
  · rw [stepAt_inner _ _ _ _ _ hin, stepAt_inner _ _ _ _ _ hin, eraseFrame_state]
    split
    · exact (erasePM_idem M).symm
    · exact stepFn_nat _ orc M f rest tok
  · cases tok with
    | err e => simp only [stepAt, rejectWith_erase, erasePM_idem, eraseFrame_idem, List.map_map, eraseFrame_comp]
    | eof =>
      simp only [stepAt]
      have hc' : ((eraseFrame f).state != .s0 || decide ((eraseFrame f).level > 0)) = (f.state != .s0 || decide (f.level > 0)) := rfl
      by_cases hc : (f.state != .s0 || decide (f.level > 0)) = true
      · rw [if_pos hc, if_pos (hc'.trans hc)]
        simp only [rejectWith_erase, erasePM_idem, eraseFrame_idem, List.map_map, eraseFrame_comp]
      · rw [if_neg hc, if_neg (hc' ▸ hc)]
        simp only [handleDeprecated_spec, depEffect_erase]
        simp [List.map_reverse]
    | _ => exact absurd rfl hin

theorem pstep_nat (orc : Oracle) (m : PM) (tok : Tok) (nl nl' : Nat) :
    erasePM (pstep orc m tok nl) = erasePM (pstep orc (erasePM m) tok nl') := by
  by_cases hrun : m.status = .running
  · cases hfr : m.frames with
    | nil => simp [pstep_eq, hfr]
    | cons f0 rest =>
      have hfg : eraseFrame (f0.addLine nl) = eraseFrame ((eraseFrame f0).addLine nl') := by
        rw [eraseFrame_addLine, eraseFrame_addLine, eraseFrame_idem]
      have hMN : erasePM ({ m with frames := f0.addLine nl :: rest } : PM) =
          erasePM ({ erasePM m with frames := (eraseFrame f0).addLine nl' :: rest.map eraseFrame } : PM) := by
        simp [erasePM, hfg]
      rw [pstep_top orc m f0 rest tok nl hrun hfr, pstep_top orc (erasePM m) (eraseFrame f0) (rest.map eraseFrame) tok nl' hrun (by simp [hfr]),
        stepAt_nat, stepAt_nat orc { erasePM m with frames := _ }, hMN, hfg, List.map_map, eraseFrame_comp]
  · rw [pstep_stopped orc m tok nl hrun, pstep_stopped orc (erasePM m) tok nl' (by simpa using hrun), erasePM_idem]

theorem pstep_erase_congr (orc : Oracle) (m m' : PM) (tok : Tok) (nl nl' : Nat) (h : erasePM m = erasePM m') :
    erasePM (pstep orc m tok nl) = erasePM (pstep orc m' tok nl') := by
  rw [pstep_nat orc m tok nl 0, pstep_nat orc m' tok nl' 0, h]

theorem parseToks_erase_congr (orc : Oracle) : ∀ (ts ts' : List LTok) (m m' : PM),
    ts.map (·.1) = ts'.map (·.1) → erasePM m = erasePM m' →
    erasePM (parseToks orc m ts) = erasePM (parseToks orc m' ts') :=
  parseToks_rel orc (pstep_erase_congr orc)

end Confuse
