import Confuse.Lemmas.Onto
/-!
# The token machine neither reads nor writes the source stack, and only `)` asks for an include

`pstep_srcs`: a step commutes with replacing the source stack (read off `pstep_onto`).  `pstep_pending`: the include
request `pendingInclude` is touched by the closing parenthesis of a call and by nothing else.
-/
namespace Confuse

def setSrcs (m : PM) (s : List Src) : PM := { m with srcs := s }

@[simp] theorem setSrcs_k (m : PM) (s : List Src) : (setSrcs m s).k = m.k := rfl
@[simp] theorem setSrcs_status (m : PM) (s : List Src) : (setSrcs m s).status = m.status := rfl
@[simp] theorem setSrcs_frames (m : PM) (s : List Src) : (setSrcs m s).frames = m.frames := rfl
@[simp] theorem setSrcs_srcs (m : PM) (s : List Src) : (setSrcs m s).srcs = s := rfl
@[simp] theorem setSrcs_addDiags (m : PM) (s : List Src) (f : Frame) (cs : List DiagCls) : (setSrcs m s).addDiags f cs = setSrcs (m.addDiags f cs) s := rfl
@[simp] theorem setSrcs_addCalls (m : PM) (s : List Src) (cs : List CbCall) : (setSrcs m s).addCalls cs = setSrcs (m.addCalls cs) s := rfl
@[simp] theorem setSrcs_rejectWith (m : PM) (s : List Src) (f : Frame) (rest : List Frame) (c : DiagCls) :
    (setSrcs m s).rejectWith f rest c = setSrcs (m.rejectWith f rest c) s := rfl
@[simp] theorem setSrcs_withFrames (m : PM) (s : List Src) (fs : List Frame) : ({ setSrcs m s with frames := fs } : PM) = setSrcs { m with frames := fs } s := rfl

theorem pstep_srcs (orc : Oracle) (m : PM) (s : List Src) (tok : Tok) (nl : Nat) :
    pstep orc (setSrcs m s) tok nl = setSrcs (pstep orc m tok nl) s := by
  rw [pstep_fresh orc m, pstep_fresh orc (setSrcs m s)]; rfl

theorem parseToks_setSrcs (orc : Oracle) (S : List Src) : ∀ (ts : List (Tok × Nat)) (m : PM),
    parseToks orc (setSrcs m S) ts = setSrcs (parseToks orc m ts) S := by
  intro ts
  induction ts with
  | nil => intro m; rfl
  | cons x xs ih => intro m; rw [parseToks_cons, parseToks_cons, pstep_srcs, ih]

theorem pstep_srcs_eq (orc : Oracle) (m : PM) (tok : Tok) (nl : Nat) : (pstep orc m tok nl).srcs = m.srcs := by
  rw [pstep_fresh]; rfl

theorem handleDeprecated_pending (m : PM) (f : Frame) : (handleDeprecated m f).1.pendingInclude = m.pendingInclude := by
  rw [handleDeprecated_spec]; rfl

theorem runValid_pending (orc : Oracle) (m m' : PM) (f : Frame) (h : runValid orc m f = some m') : m'.pendingInclude = m.pendingInclude := by
  obtain ⟨cs, rfl⟩ := runValid_eq_some h
  rfl

theorem vetoed_pending (orc : Oracle) (m : PM) (f : Frame) : (vetoed orc m f).pendingInclude = m.pendingInclude := by
  unfold vetoed
  repeat' split
  all_goals rfl

theorem storeValue_pending (orc : Oracle) (m : PM) (f : Frame) (rest : List Frame) (v : Bytes) (next : PState) :
    (storeValue orc m f rest v next).pendingInclude = m.pendingInclude := by
  fun_cases storeValue orc m f rest v next
  case case4 => exact vetoed_pending _ _ _
  case case5 hv _ _ => exact (runValid_pending orc _ _ _ hv :)
  all_goals rfl

theorem stepFn_pending (s : PState) (orc : Oracle) (m : PM) (f : Frame) (rest : List Frame) (tok : Tok) (h : tok ≠ .rparen) :
    (stepFn s orc m f rest tok).pendingInclude = m.pendingInclude := by
  cases s <;> simp only [stepFn]
  case s0 =>
    have hd := handleDeprecated_pending m f
    fun_cases step_s0 orc m f rest tok
    all_goals simp only [‹handleDeprecated m f = _›] at hd
    case case3 => exact (vetoed_pending _ _ _).trans hd
    case case4 hv => exact (runValid_pending orc _ _ _ hv).trans hd
    all_goals exact hd
  case s1 => fun_cases step_s1 orc m f rest tok <;> rfl
  case s2 => fun_cases step_s2 orc m f rest tok <;> first | rfl | exact storeValue_pending _ _ _ _ _ _
  case s3 => fun_cases step_s3 orc m f rest tok <;> first | rfl | exact storeValue_pending _ _ _ _ _ _
  case s4 =>
    fun_cases step_s4 orc m f rest tok
    case case2 => exact vetoed_pending _ _ _
    case case3 hv => exact (runValid_pending orc _ _ _ hv :)
    all_goals rfl
  case s5 => fun_cases step_s5 orc m f rest tok <;> rfl
  case s6 => fun_cases step_s6 orc m f rest tok <;> rfl
  case s7 => fun_cases step_s7 orc m f rest tok <;> rfl
  case s8 => fun_cases step_s8 orc m f rest tok <;> first | exact absurd rfl h | rfl
  case s9 => fun_cases step_s9 orc m f rest tok <;> first | exact absurd rfl h | rfl
  case s10 => fun_cases step_s10 orc m f rest tok <;> rfl
  case s11 => fun_cases step_s11 orc m f rest tok <;> rfl
  case s12 => fun_cases step_s12 orc m f rest tok <;> rfl
  case s13 => fun_cases step_s13 orc m f rest tok <;> rfl
  case s14 => fun_cases step_s14 orc m f rest tok <;> rfl

theorem pstep_pending (orc : Oracle) (m : PM) (tok : Tok) (nl : Nat) (h : tok ≠ .rparen) :
    (pstep orc m tok nl).pendingInclude = m.pendingInclude := by
  refine pstep_cases (Q := fun x => x.pendingInclude = m.pendingInclude) orc m tok nl (fun _ => rfl) (fun f rest _ _ => ?_)
  exact stepAt_cases (Q := fun x => x.pendingInclude = m.pendingInclude) orc _ _ rest tok (fun _ => rfl)
    (fun _ _ => handleDeprecated_pending _ _) rfl (fun _ => stepFn_pending _ orc _ _ rest tok h)

end Confuse
