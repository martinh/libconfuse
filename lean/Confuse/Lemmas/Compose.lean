import Confuse.Spec.Items
/-!
# Lifting token runs; the compositional evaluation agrees with the token machine
-/
namespace Confuse

theorem pstep_lift' (orc : Oracle) (m : PM) (rest : List Frame) (tok : Tok) (nl : Nat)
    (hlive : Live m) (hin : tok.inner = true)
    (hpop : tok = .rbrace → noPop m = true) :
    pstep orc (liftM m rest) tok nl = liftM (pstep orc m tok nl) rest := by
  by_cases hrun : m.status = .running
  · obtain ⟨f, inner, hfr⟩ := hlive hrun
    refine pstep_lift orc m f inner rest tok nl hrun hfr hin ?_
    rintro ⟨h1, h2, h3⟩
    have := hpop h3
    simp [noPop, hrun, hfr, h1, h2] at this
  · rw [pstep_stopped orc m tok nl hrun, pstep_stopped orc (liftM m rest) tok nl (by simpa using hrun)]

def Liftable (ts : List LTok) : Prop := ∀ t ∈ ts, t.1.inner = true ∧ t.1 ≠ .rbrace

theorem Liftable.nil : Liftable [] := fun _ h => nomatch h
theorem Liftable.cons {t : LTok} {ts : List LTok} (h : t.1.inner = true ∧ t.1 ≠ .rbrace) (hs : Liftable ts) : Liftable (t :: ts) :=
  List.forall_mem_cons.2 ⟨h, hs⟩
theorem Liftable.append {a b : List LTok} (ha : Liftable a) (hb : Liftable b) : Liftable (a ++ b) :=
  List.forall_mem_append.2 ⟨ha, hb⟩

theorem parseToks_lift (orc : Oracle) (rest : List Frame) (ts : List LTok) (hin : Liftable ts) (m : PM) (hl : Live m) :
    parseToks orc (liftM m rest) ts = liftM (parseToks orc m ts) rest ∧ Live (parseToks orc m ts) := by
  refine ⟨?_, parseToks_live orc ts m hl⟩
  induction ts generalizing m with
  | nil => rfl
  | cons t ts ih =>
    obtain ⟨ht, hts⟩ := List.forall_mem_cons.1 hin
    rw [parseToks_cons, parseToks_cons, pstep_lift' orc m rest t.1 t.2 hl ht.1 (fun h => absurd h ht.2)]
    exact ih hts _ (pstep_live orc m t.1 t.2 hl)

theorem flatSeq_ok : ∀ (b : Bool) (vs : List (Nat × Bytes × Nat)), Liftable (flatSeq b vs)
  | _, [] => .nil
  | true, (_, _, _) :: vs => .cons ⟨rfl, Tok.noConfusion⟩ (flatSeq_ok false vs)
  | false, (_, _, _) :: vs => .cons ⟨rfl, Tok.noConfusion⟩ (.cons ⟨rfl, Tok.noConfusion⟩ (flatSeq_ok false vs))

theorem asgTok_ok (b : Bool) : (asgTok b).inner = true ∧ asgTok b ≠ .rbrace := by
  cases b <;> simp [asgTok, Tok.inner]

theorem noPop_liftM_cons (r : PM) (p : Frame) (h : Live r) : noPop (liftM r [p]) = true := by
  by_cases hrun : r.status = .running
  · obtain ⟨f, inner, hfr⟩ := h hrun
    cases inner <;> simp [noPop, liftM, hrun, hfr]
  · simp [noPop, hrun]

theorem rbrace_lift (orc : Oracle) (m : PM) (rest : List Frame) (n : Nat) (hl : Live m) (hnp : noPop m = true) :
    parseToks orc (liftM m rest) [(.rbrace, n)] = liftM (pstep orc m .rbrace n) rest ∧ Live (pstep orc m .rbrace n) :=
  ⟨pstep_lift' orc m rest .rbrace n hl rfl fun _ => hnp, pstep_live orc m _ _ hl⟩

theorem secHead_ok (name : Bytes) (n1 : Nat) (title : Option (Bytes × Nat)) (n2 : Nat) : Liftable (secHead name n1 title n2) := by
  cases title with
  | none => exact .cons ⟨rfl, Tok.noConfusion⟩ (.cons ⟨rfl, Tok.noConfusion⟩ .nil)
  | some tn => exact .cons ⟨rfl, Tok.noConfusion⟩ (.cons ⟨rfl, Tok.noConfusion⟩ (.cons ⟨rfl, Tok.noConfusion⟩ .nil))

mutual
theorem evalItem_sound (orc : Oracle) : ∀ (i : Item) (m r : PM) (rest : List Frame), evalItem orc m i = some r → Live m →
    parseToks orc (liftM m rest) i.flat = liftM r rest ∧ Live r
  | .assign name n1 app n2 v n3, m, r, rest, h, hl => by
    simp only [evalItem, Option.some.injEq] at h
    subst h
    simp only [Item.flat]
    exact parseToks_lift orc rest _ (.cons ⟨rfl, Tok.noConfusion⟩ (.cons (asgTok_ok app) (.cons ⟨rfl, Tok.noConfusion⟩ .nil))) m hl
  | .list name n1 app n2 n3 vs n4, m, r, rest, h, hl => by
    simp only [evalItem] at h
    split at h
    · rename_i hnp
      simp only [Option.some.injEq] at h
      subst h
      obtain ⟨e, hl1⟩ := parseToks_lift orc rest ([(.str name, n1), (asgTok app, n2), (.lbrace, n3)] ++ flatSeq true vs)
        (.cons ⟨rfl, Tok.noConfusion⟩ (.cons (asgTok_ok app) (.cons ⟨rfl, Tok.noConfusion⟩ (flatSeq_ok true vs)))) m hl
      simp only [Item.flat]
      rw [parseToks_append, e]
      exact rbrace_lift orc _ rest n4 hl1 hnp
    · simp at h
  | .call name n1 n2 args n3, m, r, rest, h, hl => by
    simp only [evalItem, Option.some.injEq] at h
    subst h
    simp only [Item.flat]
    exact parseToks_lift orc rest _
      (.cons ⟨rfl, Tok.noConfusion⟩ (.cons ⟨rfl, Tok.noConfusion⟩ ((flatSeq_ok true args).append (.cons ⟨rfl, Tok.noConfusion⟩ .nil)))) m hl
  | .comment t n, m, r, rest, h, hl => by
    simp only [evalItem, Option.some.injEq] at h
    subst h
    refine ⟨?_, pstep_live orc _ _ _ hl⟩
    simp only [Item.flat, parseToks_cons, parseToks_nil]
    exact pstep_lift' orc m rest _ n hl rfl (fun h => by simp at h)
  | .sec name n1 title n2 body n3, m, r, rest, h, hl => by
    simp only [evalItem] at h
    obtain ⟨hhead, hl1⟩ := parseToks_lift orc rest _ (secHead_ok name n1 title n2) m hl
    simp only [Item.flat]
    rw [parseToks_append, parseToks_append, hhead]
    generalize parseToks orc m (secHead name n1 title n2) = m1 at h hl1 ⊢
    split at h
    · -- the head was rejected
      rename_i hst
      simp only [Option.some.injEq] at h
      subst h
      have hst' : m1.status ≠ .running := by simpa using hst
      refine ⟨?_, hl1⟩
      have hst'' : (liftM m1 rest).status ≠ .running := by simpa using hst'
      rw [parseToks_stopped orc (liftM m1 rest) _ hst'', parseToks_stopped orc (liftM m1 rest) _ hst'']
    · rename_i hst
      have hrun : m1.status = .running := by simpa using hst
      split at h
      · -- opened
        rename_i child parent hfr
        split at h
        · rename_i hg
          split at h
          · rename_i r' hev
            simp only [Option.some.injEq] at h
            subst h
            have hl0 : Live ({ m1 with frames := [child], maxDepth := m1.maxDepth - 1 } : PM) := fun _ => ⟨child, [], rfl⟩
            -- the body is evaluated on the child frame alone; `m1` is that machine lifted over `[parent]` (`hm1` below), so
            -- the induction applies with `parent :: rest` underneath
            obtain ⟨ih, hlr⟩ := evalItems_sound orc body _ r' (parent :: rest) hev hl0
            have hm1 : liftM m1 rest = liftM ({ m1 with frames := [child], maxDepth := m1.maxDepth - 1 } : PM) (parent :: rest) := by
              have hd : m1.maxDepth - 1 + (parent :: rest).length = m1.maxDepth + rest.length := by
                rw [List.length_cons, Nat.add_comm rest.length 1, ← Nat.add_assoc, Nat.sub_add_cancel hg]
              rw [liftM_running m1 rest hrun, hfr,
                liftM_running _ (parent :: rest) (show PM.status { m1 with frames := [child], maxDepth := m1.maxDepth - 1 } = .running from hrun), hd]
              rfl
            rw [hm1, ih]
            have : liftM r' (parent :: rest) = liftM (liftM r' [parent]) rest := by rw [liftM_liftM]; rfl
            rw [this]
            exact rbrace_lift orc _ rest n3 (live_liftM r' [parent] hlr) (noPop_liftM_cons r' parent hlr)
          · simp at h
        · simp at h
      · -- skipping an undeclared section
        rename_i f hfr
        split at h
        · rename_i hg
          simp only [Bool.and_eq_true, beq_iff_eq, List.all_eq_true] at hg
          obtain ⟨⟨⟨hs12, hd1⟩, hbal⟩, hinner⟩ := hg
          simp only [Option.some.injEq] at h
          subst h
          have e1 := C12_skip_body orc (flats body) m1 f [] 1 1 hrun hfr hs12 hd1 hinner hbal
          have e2 := C12_skip_body orc (flats body) (liftM m1 rest) f rest 1 1 (by simpa using hrun)
            (by simp [liftM, hrun, hfr]) hs12 hd1 hinner hbal
          rw [e1, e2]
          have hl2 : Live ({ m1 with frames := [{ f.addLine (sumNl (flats body)) with depth := 1 }] } : PM) := fun _ => ⟨_, [], rfl⟩
          have e3 := lift_frames m1 { f.addLine (sumNl (flats body)) with depth := 1 } [] rest hrun
          rw [List.nil_append] at e3
          rw [e3]
          exact rbrace_lift orc _ rest n3 hl2 (by simp [noPop, Frame.addLine, hs12])
        · simp at h
      · simp at h
theorem evalItems_sound (orc : Oracle) : ∀ (is : List Item) (m r : PM) (rest : List Frame), evalItems orc m is = some r → Live m →
    parseToks orc (liftM m rest) (flats is) = liftM r rest ∧ Live r
  | [], m, r, rest, h, hl => by
    simp only [evalItems, Option.some.injEq] at h
    subst h
    exact ⟨rfl, hl⟩
  | i :: is, m, r, rest, h, hl => by
    simp only [evalItems] at h
    split at h
    · rename_i m' hev
      obtain ⟨h1, hl'⟩ := evalItem_sound orc i m m' rest hev hl
      obtain ⟨h2, hl''⟩ := evalItems_sound orc is m' r rest h hl'
      refine ⟨?_, hl''⟩
      simp only [flats]
      rw [parseToks_append, h1, h2]
    · simp at h
end

end Confuse
