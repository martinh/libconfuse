import Confuse.Lemmas.Store
import Confuse.Lemmas.Resolve
import Confuse.Lemmas.Parser
/-!
# A step that does not reject says nothing — except deprecation notices

`nd P m` is the list of diagnostics delivered so far whose class is not in `P`; with `P := isDep` those that are not
deprecation notices.  A step that does not end in `rejected` leaves it unchanged (`Quiet`); so a parse that is accepted
has delivered nothing but deprecation notices.  (`Lemmas/NoDepM.lean` instantiates `P := fun _ => false` for schemas
without deprecated options: nothing at all.)
-/
namespace Confuse

def isDep (c : DiagCls) : Bool := c == .deprecatedDrop || c == .deprecatedKeep

def nd (P : DiagCls → Bool) (m : PM) : List Diag := m.diags.filter (fun d => !P d.cls)

def Quiet (P : DiagCls → Bool) (m m' : PM) : Prop := m'.status ≠ .rejected → nd P m' = nd P m

variable {P : DiagCls → Bool}

@[simp] theorem nd_addCalls (m : PM) (cs : List CbCall) : nd P (m.addCalls cs) = nd P m := rfl

theorem nd_addDiags_dep (m : PM) (f : Frame) (cs : List DiagCls) (h : ∀ c ∈ cs, P c = true) : nd P (m.addDiags f cs) = nd P m := by
  simp only [nd, PM.addDiags, List.filter_append]
  have : List.filter (fun d => !P d.cls) (List.map f.diag cs).reverse = [] := by
    simp only [List.filter_eq_nil_iff, List.mem_reverse, List.mem_map]
    rintro d ⟨c, hc, rfl⟩
    simp [Frame.diag, h c hc]
  rw [this]; rfl

theorem nd_addDiags_silent (m : PM) (f : Frame) {cs : List DiagCls} (h : cs = []) : nd P (m.addDiags f cs) = nd P m := by
  rw [h, addDiags_nil]

theorem quiet_reject (m m0 : PM) (g : Frame) (rest : List Frame) : Quiet P m (m0.reject g rest) := fun h => absurd (reject_status _ _ _) h
theorem quiet_of (m m' : PM) (h : nd P m' = nd P m) : Quiet P m m' := fun _ => h

theorem setopt_ok_quiet (orc : Oracle) (k : Nat) (ci : CfgInfo) (o : Opt) (v : Option Bytes) (i : Nat)
    (h : (setopt orc k ci o v).res = some i) : (setopt orc k ci o v).diags = [] := by
  obtain ⟨p, e⟩ := setopt_res_some orc k ci o v (by rw [h]; nofun)
  rw [e]; rfl

theorem setopt_ok_nd (orc : Oracle) (k : Nat) (ci : CfgInfo) (o : Opt) (v : Option Bytes) (i : Nat) (m : PM) (g : Frame)
    (h : (setopt orc k ci o v).res = some i) :
    nd P ((m.addCalls (setopt orc k ci o v).calls).addDiags g (setopt orc k ci o v).diags) = nd P m :=
  nd_addDiags_silent _ g (setopt_ok_quiet _ _ _ _ _ _ h)

theorem runValid_nd (orc : Oracle) (m m' : PM) (f : Frame) (h : runValid orc m f = some m') : nd P m' = nd P m := by
  obtain ⟨cs, rfl⟩ := runValid_eq_some h
  rfl

theorem handleDeprecated_nd (m : PM) (f : Frame) (hdep : ∀ c ∈ (depEffect f).1, P c = true) :
    nd P (handleDeprecated m f).1 = nd P m := by
  rw [handleDeprecated_spec]; exact nd_addDiags_dep _ _ _ hdep

theorem storeValue_quiet (orc : Oracle) (m : PM) (f : Frame) (rest : List Frame) (v : Bytes) (next : PState) :
    Quiet P m (storeValue orc m f rest v next) := by
  fun_cases storeValue orc m f rest v next
  case case5 i hres m2 hv _ _ =>
    exact quiet_of _ _ ((runValid_nd orc _ _ _ hv).trans (setopt_ok_nd _ _ _ _ _ _ _ _ hres))
  all_goals exact quiet_reject _ _ _ _

/-- closes `Quiet P m x` where `x` was rejected (`rejectWith` is a `reject` by definition), has the diagnostics of `m` by
definition, or is a store or a call -/
macro "quiet" : tactic =>
  `(tactic| first
      | exact quiet_reject _ _ _ _
      | exact quiet_of _ _ rfl
      | exact storeValue_quiet _ _ _ _ _ _)

theorem callFunction_quiet (orc : Oracle) (m : PM) (f : Frame) (rest : List Frame) : Quiet P m (callFunction orc m f rest) := by
  fun_cases callFunction orc m f rest <;> quiet

theorem depEffect_dep (f : Frame) : ∀ c ∈ (depEffect f).1, isDep c = true := by
  unfold depEffect
  repeat' split
  all_goals simp [isDep]

theorem step_s0_quiet (orc : Oracle) (m : PM) (f : Frame) (rest : List Frame) (tok : Tok)
    (hdep : ∀ c ∈ (depEffect f).1, P c = true) : Quiet P m (step_s0 orc m f rest tok) := by
  have h0 := handleDeprecated_nd m f hdep
  fun_cases step_s0 orc m f rest tok
  all_goals simp only [‹handleDeprecated m f = _›] at h0
  case case4 => have h := runValid_nd (P := P) orc _ _ _ ‹runValid _ _ _ = some _›; exact quiet_of _ _ (h.trans h0)
  -- a name: the resolver is silent when it finds the option, and when an unknown one is skipped or added
  case case7 m' f' _ v _ _ _ hi => exact quiet_of _ _ ((nd_addDiags_silent m' f' (getoptPath_quiet' _ _ (.inl hi))).trans h0)
  case case8 m' f' _ v _ _ _ _ hk _ _ => exact quiet_of _ _ ((nd_addDiags_silent m' f' (getoptPath_quiet' _ _ (.inr hk))).trans h0)
  case case12 m' f' _ v _ _ ref hr _ _ _ => exact quiet_of _ _ ((nd_addDiags_silent m' f' (getoptPath_resolved_quiet _ _ ref hr)).trans h0)
  all_goals first | quiet | exact quiet_of _ _ h0

theorem stepFn_quiet (s : PState) (orc : Oracle) (m : PM) (f : Frame) (rest : List Frame) (tok : Tok)
    (hdep : ∀ c ∈ (depEffect f).1, P c = true) : Quiet P m (stepFn s orc m f rest tok) := by
  cases s <;> simp only [stepFn]
  case s0 => exact step_s0_quiet orc m f rest tok hdep
  case s1 => fun_cases step_s1 orc m f rest tok <;> quiet
  case s2 => fun_cases step_s2 orc m f rest tok <;> quiet
  case s3 => fun_cases step_s3 orc m f rest tok <;> quiet
  case s4 =>
    fun_cases step_s4 orc m f rest tok
    case case3 m1 hv => exact quiet_of _ _ (runValid_nd orc m m1 f hv)
    all_goals quiet
  case s5 =>
    fun_cases step_s5 orc m f rest tok
    case case2 i hres _ _ _ _ _ _ => exact quiet_of _ _ (setopt_ok_nd _ _ _ _ _ _ _ _ hres)
    all_goals quiet
  case s6 => fun_cases step_s6 orc m f rest tok <;> quiet
  case s7 => fun_cases step_s7 orc m f rest tok <;> quiet
  case s8 => fun_cases step_s8 orc m f rest tok <;> first | quiet | exact callFunction_quiet _ _ _ _
  case s9 => fun_cases step_s9 orc m f rest tok <;> first | quiet | exact callFunction_quiet _ _ _ _
  case s10 => fun_cases step_s10 orc m f rest tok <;> quiet
  case s11 => fun_cases step_s11 orc m f rest tok <;> quiet
  case s12 => fun_cases step_s12 orc m f rest tok <;> quiet
  case s13 => fun_cases step_s13 orc m f rest tok <;> quiet
  case s14 => fun_cases step_s14 orc m f rest tok <;> quiet

theorem pstep_quiet (orc : Oracle) (m : PM) (tok : Tok) (nl : Nat)
    (hdep : m.status = .running → ∀ f ∈ m.frames.head?, ∀ c ∈ (depEffect (f.addLine nl)).1, P c = true) :
    Quiet P m (pstep orc m tok nl) := by
  refine pstep_cases orc m tok nl (fun _ _ => rfl) (fun f rest hrun hfr => ?_)
  have hdep := hdep hrun f (by simp [hfr])
  -- `Quiet` does not look at the frames
  show Quiet P { m with frames := f.addLine nl :: rest } _
  exact stepAt_cases orc _ _ rest tok (fun c => quiet_reject _ _ _ _) (fun _ _ => quiet_of _ _ (handleDeprecated_nd _ _ hdep))
    (fun _ => rfl) (fun _ => stepFn_quiet _ orc _ _ rest tok hdep)

theorem parseToks_quiet_of {I : PM → Prop} (orc : Oracle) (hI : ∀ m t n, I m → I (pstep orc m t n))
    (hq : ∀ m t n, I m → Quiet P m (pstep orc m t n)) (ts : List LTok) : ∀ m, I m → Quiet P m (parseToks orc m ts) := by
  induction ts with
  | nil => exact fun _ _ _ => rfl
  | cons t ts ih =>
    intro m hm h
    rw [parseToks_cons] at h ⊢
    rw [ih _ (hI m t.1 t.2 hm) h]
    -- a step that rejects ends the parse
    refine hq m t.1 t.2 hm fun h1 => h ?_
    rw [parseToks_stopped orc _ ts (by rw [h1]; decide)]
    exact h1

theorem parseToks_quiet (orc : Oracle) (ts : List LTok) : ∀ (m : PM), (parseToks orc m ts).status ≠ .rejected →
    nd isDep (parseToks orc m ts) = nd isDep m :=
  fun m => parseToks_quiet_of (I := fun _ => True) orc (fun _ _ _ _ => trivial)
    (fun m t n _ => pstep_quiet orc m t n fun _ f _ => depEffect_dep _) ts m trivial

end Confuse
