import Confuse.Spec.Literal
import Confuse.Lemmas.Span
/-!
# The scanner model, one piece at a time

What each scanner function does on one byte or one run (`commentEnd`, `commentRun`, the guarded branches of
`lexInitial`, the escape modes of `dqRun`), and from that what one item of a quoted literal (Spec/Literal) scans to.
-/
namespace Confuse

def Tok.isErr : Tok → Bool
  | .err _ => true
  | _ => false

open Confuse.Spec

theorem cstr_noNul (s : Bytes) (h : ∀ c ∈ s, c ≠ 0) : cstr s = s :=
  takeWhile_all (List.all_eq_true.2 fun c hc => bne_iff_ne.2 (h c hc))

theorem dqRun_inl (env : Env) (s s' : DqSt) (c : Nat) (cs : Bytes) (h : dqStep env s c cs = .inl s') :
    dqRun env s (c :: cs) = dqRun env s' cs := by
  simp only [dqRun, h]

theorem dqRun_inr (env : Env) (s : DqSt) (out : LexOut) (c : Nat) (cs : Bytes) (h : dqStep env s c cs = .inr out) :
    dqRun env s (c :: cs) = out := by
  simp only [dqRun, h]

theorem dqRun_close (env : Env) (acc : Bytes) (nl : Nat) (rest : Bytes) :
    dqRun env ⟨.plain, acc, nl⟩ (c_dq :: rest) = ⟨.str (cstr acc.reverse), nl, rest⟩ := rfl

theorem sqRun_close (acc : Bytes) (nl : Nat) (rest : Bytes) :
    sqRun .plain acc nl (c_sq :: rest) = ⟨.str (cstr acc.reverse), nl, rest⟩ := rfl

theorem envSplit_append (pre name rest : Bytes) (h : name.all (fun c => c != c_rbr && c != c_colon) = true) :
    envSplit pre (name ++ rest) = envSplit (name.reverse ++ pre) rest := by
  induction name generalizing pre with
  | nil => rfl
  | cons c cs ih =>
    simp only [List.all_cons, Bool.and_eq_true, bne_iff_ne] at h
    simp only [List.cons_append, envSplit, if_neg h.1.2, ih _ h.2, List.reverse_cons, List.append_assoc, List.nil_append]

theorem envLookup_name (env : Env) (name : Bytes) (h : name.all (fun c => c != c_rbr && c != c_colon) = true) :
    envLookup env name = envValue env name none := by
  have := envSplit_append [] name [] h
  rw [List.append_nil] at this
  simp [envLookup, envValue, this, envSplit]
  rfl

theorem envLookup_default (env : Env) (name d : Bytes) (h : name.all (fun c => c != c_rbr && c != c_colon) = true) :
    envLookup env (name ++ c_colon :: c_minus :: d) = envValue env name (some d) := by
  simp [envLookup, envValue, envSplit_append [] name _ h, envSplit]
  rfl

@[simp] theorem nlCount_nil : nlCount [] = 0 := rfl
@[simp] theorem nlCount_append (a b : Bytes) : nlCount (a ++ b) = nlCount a + nlCount b := by simp [nlCount]
theorem nlCount_cons (c : Nat) (b : Bytes) : nlCount (c :: b) = (if c = c_nl then 1 else 0) + nlCount b := by
  by_cases h : c = c_nl <;> simp [nlCount, h]; omega

theorem nlCount_single (c : Nat) : nlCount [c] = if c = c_nl then 1 else 0 := by
  rw [nlCount_cons]; rfl

theorem dqRun_envBody (env : Env) (body inside acc : Bytes) (nl : Nat) (tail : Bytes)
    (h : body.all (· != c_rbr) = true) :
    dqRun env ⟨.env inside, acc, nl⟩ (body ++ c_rbr :: tail) =
      dqRun env ⟨.plain, (envLookup env (inside.reverse ++ body)).reverse ++ acc, nl + nlCount body⟩ tail := by
  induction body generalizing inside nl with
  | nil => simp [dqRun, dqStep, nlCount]
  | cons c cs ih =>
    simp only [List.all_cons, Bool.and_eq_true, bne_iff_ne] at h
    have step : dqStep env ⟨.env inside, acc, nl⟩ c (cs ++ c_rbr :: tail) = .inl ⟨.env (c :: inside), acc, nl + nlCount [c]⟩ := by
      by_cases hn : c = c_nl <;> simp [dqStep, h.1, hn, nlCount_single]
    rw [List.cons_append, dqRun_inl env _ _ _ _ step, ih (c :: inside) _ h.2, nlCount_cons c cs, nlCount_single, List.reverse_cons,
      List.append_assoc, Nat.add_assoc]
    rfl

theorem hasRbr_append_rbr (a b : Bytes) : hasRbr (a ++ c_rbr :: b) = true := by
  induction a with
  | nil => simp [hasRbr]
  | cons c cs ih => simp [hasRbr, ih]

theorem commentEnd_blank {c : Nat} (cs : Bytes) (h : isBlank c = true) : commentEnd (c :: cs) = commentEnd cs := by
  simp only [commentEnd, List.dropWhile_cons_of_pos h]

theorem commentEnd_other {c : Nat} (cs : Bytes) (h : isBlank c = false) (hs : c ≠ c_star) : commentEnd (c :: cs) = none := by
  simp only [commentEnd, List.dropWhile_cons_of_neg (Bool.not_eq_true _ ▸ h), if_neg hs]

theorem commentEnd_star_star (cs : Bytes) : commentEnd (c_star :: c_star :: cs) = commentEnd (c_star :: cs) := rfl

theorem commentEnd_star_other {d : Nat} (cs : Bytes) (h1 : d ≠ c_star) (h2 : d ≠ c_slash) :
    commentEnd (c_star :: d :: cs) = none := by
  simp [commentEnd, isBlank, h1, h2]

theorem commentRun_cons (acc : Bytes) (nl c : Nat) (cs : Bytes) : commentRun acc nl (c :: cs) =
    match commentEnd (c :: cs) with
    | some rest => ⟨.comment (trimWs acc.reverse), nl, rest⟩
    | none => commentRun (c :: acc) (nl + nlCount [c]) cs := by
  rw [commentRun]
  by_cases h : c = c_nl
  · subst h; rfl
  · rw [if_neg h, nlCount_single, if_neg h]; rfl

theorem commentRun_tok : ∀ (a acc : Bytes) (nl : Nat),
    (∃ t, (commentRun acc nl a).tok = .comment t) ∨ (commentRun acc nl a).tok = .err .unterminatedComment := by
  intro a
  induction a with
  | nil => exact fun _ _ => .inr rfl
  | cons c cs ih =>
    intro acc nl
    rw [commentRun_cons]
    cases commentEnd (c :: cs) with
    | some r => exact .inl ⟨_, rfl⟩
    | none => exact ih _ _

/-! On a literal head byte `lexInitial` is decided by `rfl`; these are the branches that need a hypothesis. -/

theorem lexInitial_slash (env : Env) (nl : Nat) (cs : Bytes) (h1 : cs.head? ≠ some c_slash) (h2 : cs.head? ≠ some c_star) :
    lexInitial env nl (c_slash :: cs) = lexWord nl (c_slash :: cs) := by
  cases cs with
  | nil => rfl
  | cons d ds =>
    show (if d = c_slash then _ else if d = c_star then _ else _) = _
    rw [if_neg (by simpa using h1), if_neg (by simpa using h2)]

theorem lexInitial_plus (env : Env) (nl : Nat) (cs : Bytes) (h : cs.head? ≠ some c_eq) :
    lexInitial env nl (c_plus :: cs) = lexInitial env nl cs := by
  cases cs with
  | nil => rfl
  | cons d ds =>
    show (if d = c_eq then _ else _) = _
    rw [if_neg (by simpa using h)]

theorem lexInitial_dollar (env : Env) (nl : Nat) (cs : Bytes) (h : ¬(cs.head? = some c_lbr ∧ hasRbr cs.tail = true)) :
    lexInitial env nl (c_dollar :: cs) = lexWord nl (c_dollar :: cs) := by
  cases cs with
  | nil => rfl
  | cons d ds =>
    show (if (d = c_lbr && hasRbr ds) = true then _ else _) = _
    rw [if_neg (by simpa using h)]

theorem lexInitial_env (env : Env) (nl : Nat) (cs : Bytes) (h : hasRbr cs = true) : lexInitial env nl (c_dollar :: c_lbr :: cs) =
    ⟨.str (cstr (envLookup env (cs.takeWhile (· != c_rbr)))), nl + nlCount (cs.takeWhile (· != c_rbr)),
      (cs.dropWhile (· != c_rbr)).drop 1⟩ := by
  show (if (c_lbr = c_lbr && hasRbr cs) = true then _ else _) = _
  rw [if_pos (by simpa using h)]

theorem lexInitial_unnamed (env : Env) (nl : Nat) {c : Nat} (cs : Bytes)
    (h : c ≠ c_sp ∧ c ≠ c_tab ∧ c ≠ c_nl ∧ c ≠ c_hash ∧ c ≠ c_slash ∧ c ≠ c_lbr ∧ c ≠ c_rbr ∧ c ≠ c_lp ∧ c ≠ c_rp ∧ c ≠ c_eq ∧
      c ≠ c_comma ∧ c ≠ c_plus ∧ c ≠ c_dq ∧ c ≠ c_sq ∧ c ≠ c_dollar) :
    lexInitial env nl (c :: cs) = if isWordByte c then lexWord nl (c :: cs) else lexInitial env nl cs := by
  simp [lexInitial, h]

theorem lexInitial_word (env : Env) (nl : Nat) {c : Nat} (cs : Bytes) (hw : isWordByte c = true) (h1 : c ≠ c_slash) (h2 : c ≠ c_dollar) :
    lexInitial env nl (c :: cs) = lexWord nl (c :: cs) := by
  rw [lexInitial_unnamed, if_pos hw]
  refine ⟨?_, ?_, ?_, ?_, h1, ?_, ?_, ?_, ?_, ?_, ?_, ?_, ?_, ?_, h2⟩ <;> (rintro rfl; cases hw)

/-- The INITIAL rules by the first byte `c` of `c :: cs`, once for every later analysis.  The equations hold for every
line count and for every text `X` in place of `cs` that begins as `cs` does: only `/` and `+` look at the next byte
(`//`, `/*`, `+=` have cases of their own); `$` looks ahead without bound and is left to the caller. -/
inductive LexHead (env : Env) (c : Nat) (cs : Bytes) : Prop
  | skip (eq : ∀ nl X, (c = c_slash ∨ c = c_plus → X.head? = cs.head?) → lexInitial env nl (c :: X) = lexInitial env (nl + nlCount [c]) X)
  | punct (t : Tok) (ht : t ≠ .eof) (hc : c ≠ c_nl) (eq : ∀ nl X, lexInitial env nl (c :: X) = ⟨t, nl, X⟩)
  | word (hw : isWordByte c = true)
      (eq : ∀ nl X, (c = c_slash ∨ c = c_plus → X.head? = cs.head?) → lexInitial env nl (c :: X) = lexWord nl (c :: X))
  | hash (hc : c = c_hash)
  | slash2 (ds : Bytes) (hc : c = c_slash) (hcs : cs = c_slash :: ds)
  | block (ds : Bytes) (hc : c = c_slash) (hcs : cs = c_star :: ds)
  | pluseq (ds : Bytes) (hc : c = c_plus) (hcs : cs = c_eq :: ds)
  | dq (hc : c = c_dq)
  | sq (hc : c = c_sq)
  | dollar (hc : c = c_dollar)

theorem lexInitial_head (env : Env) (c : Nat) (cs : Bytes) : LexHead env c cs := by
  by_cases h1 : c = c_sp; · subst h1; exact .skip fun _ _ _ => rfl
  by_cases h1' : c = c_tab; · subst h1'; exact .skip fun _ _ _ => rfl
  by_cases h2 : c = c_nl; · subst h2; exact .skip fun _ _ _ => rfl
  by_cases h3 : c = c_hash; · exact .hash h3
  by_cases h4 : c = c_slash
  · subst h4
    have word : cs.head? ≠ some c_slash → cs.head? ≠ some c_star → LexHead env c_slash cs := fun a b =>
      .word rfl fun nl X hX => lexInitial_slash env nl X (hX (.inl rfl) ▸ a) (hX (.inl rfl) ▸ b)
    cases cs with
    | nil => exact word nofun nofun
    | cons d ds =>
      by_cases hd1 : d = c_slash; · exact .slash2 ds rfl (hd1 ▸ rfl)
      by_cases hd2 : d = c_star; · exact .block ds rfl (hd2 ▸ rfl)
      exact word (by simpa using hd1) (by simpa using hd2)
  by_cases h5 : c = c_lbr; · subst h5; exact .punct .lbrace Tok.noConfusion (by decide) fun _ _ => rfl
  by_cases h6 : c = c_rbr; · subst h6; exact .punct .rbrace Tok.noConfusion (by decide) fun _ _ => rfl
  by_cases h7 : c = c_lp; · subst h7; exact .punct .lparen Tok.noConfusion (by decide) fun _ _ => rfl
  by_cases h8 : c = c_rp; · subst h8; exact .punct .rparen Tok.noConfusion (by decide) fun _ _ => rfl
  by_cases h9 : c = c_eq; · subst h9; exact .punct .eq Tok.noConfusion (by decide) fun _ _ => rfl
  by_cases h10 : c = c_comma; · subst h10; exact .punct .comma Tok.noConfusion (by decide) fun _ _ => rfl
  by_cases h11 : c = c_plus
  · subst h11
    have skip : cs.head? ≠ some c_eq → LexHead env c_plus cs := fun a =>
      .skip fun nl X hX => lexInitial_plus env nl X (hX (.inr rfl) ▸ a)
    cases cs with
    | nil => exact skip nofun
    | cons d ds =>
      by_cases hd : d = c_eq; · exact .pluseq ds rfl (hd ▸ rfl)
      exact skip (by simpa using hd)
  by_cases h12 : c = c_dq; · exact .dq h12
  by_cases h13 : c = c_sq; · exact .sq h13
  by_cases h14 : c = c_dollar; · exact .dollar h14
  have hu := fun nl X => lexInitial_unnamed env nl (c := c) X ⟨h1, h1', h2, h3, h4, h5, h6, h7, h8, h9, h10, h11, h12, h13, h14⟩
  by_cases h16 : isWordByte c = true
  · exact .word h16 fun nl X _ => by rw [hu, if_pos h16]
  · exact .skip fun nl X _ => by rw [hu, if_neg h16, nlCount_single, if_neg h2]; rfl

theorem simpleEsc_none {c : Nat} (h : c < 97 ∨ 118 < c) : simpleEsc c = none := by
  unfold simpleEsc
  rw [if_neg (by omega), if_neg (by omega), if_neg (by omega), if_neg (by omega), if_neg (by omega), if_neg (by omega),
    if_neg (by omega), if_neg (by omega)]

theorem all_isDec_of_isOct {ds : List Nat} (h : ds.all isOct = true) : ds.all isDec = true :=
  List.all_eq_true.2 fun x hx => by have := List.all_eq_true.1 h x hx; simp [isOct, isDec] at *; omega

theorem dqRun_digits (env : Env) (ds : List Nat) (n v : Nat) (ao : Bool) (acc : Bytes) (nl : Nat) (tail : Bytes)
    (h : ds.all isDec = true) :
    dqRun env ⟨.digits n ao v, acc, nl⟩ (ds ++ tail) =
      dqRun env ⟨.digits (n + ds.length) (ao && ds.all isOct) (ds.foldl (fun a d => a * 8 + (d - 48)) v), acc, nl⟩ tail := by
  induction ds generalizing n v ao with
  | nil => simp
  | cons d ds ih =>
    simp only [List.all_cons, Bool.and_eq_true] at h
    rw [List.cons_append, dqRun_inl env _ ⟨.digits (n + 1) (ao && isOct d) (v * 8 + (d - 48)), acc, nl⟩ _ _
      (by simp [dqStep, h.1]), ih _ _ _ h.2]
    simp [Nat.add_assoc, Nat.add_comm 1, Bool.and_assoc]

theorem dqRun_bs_digits (env : Env) (d : Nat) (ds : List Nat) (acc : Bytes) (nl : Nat) (tail : Bytes)
    (h : (d :: ds).all isDec = true) :
    dqRun env ⟨.plain, acc, nl⟩ (c_bs :: d :: (ds ++ tail)) =
      dqRun env ⟨.digits (1 + ds.length) ((d :: ds).all isOct) (octVal (d :: ds)), acc, nl⟩ tail := by
  simp only [List.all_cons, Bool.and_eq_true] at h
  have hn : d ≠ c_nl := by rintro rfl; cases h.1
  refine (dqRun_inl env ⟨.esc, acc, nl⟩ ⟨.digits 1 (isOct d) (d - 48), acc, nl⟩ _ _ (by simp [dqStep, hn, h.1])).trans ?_
  rw [dqRun_digits env ds _ _ _ acc nl tail h.2]
  simp [octVal]

theorem dqRun_hex_end (env : Env) {m : DqMode} {b : Nat} (hm : m = .hex0 ∧ b = 120 ∨ m = .hex1 b) (acc : Bytes) (nl : Nat)
    (tail : Bytes) (h : DqItem.okNext .xlit tail = true) :
    dqRun env ⟨m, acc, nl⟩ tail = dqRun env ⟨.plain, b :: acc, nl⟩ tail := by
  cases tail with
  | nil => rcases hm with ⟨rfl, rfl⟩ | rfl <;> rfl
  | cons d ds =>
    have h : isHex d = false := by simpa [DqItem.okNext] using h
    rcases hm with ⟨rfl, rfl⟩ | rfl <;> simp only [dqRun, dqStep, h, Bool.false_eq_true, if_false]

theorem dqRun_digits_end (env : Env) {n : Nat} {ao : Bool} {v b : Nat} (hf : finDigits n ao v = .ok b) (acc : Bytes) (nl : Nat)
    (tail : Bytes) (h : DqItem.okNext (.oct []) tail = true) :
    dqRun env ⟨.digits n ao v, acc, nl⟩ tail = dqRun env ⟨.plain, b :: acc, nl⟩ tail := by
  cases tail with
  | nil => simp only [dqRun, dqEof, hf]
  | cons d ds =>
    have h : isDec d = false := by simpa [DqItem.okNext] using h
    simp only [dqRun, dqStep, h, Bool.false_eq_true, if_false, hf]

theorem dqRun_digits_err (env : Env) {n : Nat} {ao : Bool} {v : Nat} {e : LexErr} (hf : finDigits n ao v = .error e) (acc : Bytes)
    (nl : Nat) {d : Nat} (tail : Bytes) (hd : isDec d = false) :
    (dqRun env ⟨.digits n ao v, acc, nl⟩ (d :: tail)).tok = .err e := by
  simp only [dqRun, dqStep, hd, Bool.false_eq_true, if_false, hf]

theorem envItem_body (env : Env) (name : Bytes) (dflt : Option Bytes) (hwf : (DqItem.env name dflt).wf = true) :
    ∃ body, (DqItem.env name dflt).render = c_dollar :: c_lbr :: (body ++ [c_rbr]) ∧ body.all (· != c_rbr) = true ∧
      envLookup env body = envValue env name dflt ∧ nlCount body = (DqItem.env name dflt).newlines := by
  simp only [DqItem.wf, Bool.and_eq_true] at hwf
  obtain ⟨hname, hd⟩ := hwf
  have hname' : name.all (· != c_rbr) = true :=
    List.all_eq_true.2 fun x hx => (Bool.and_eq_true _ _ ▸ List.all_eq_true.1 hname x hx).1
  cases dflt with
  | none =>
    exact ⟨name, by simp [DqItem.render], hname', envLookup_name env name hname, by simp [DqItem.newlines]⟩
  | some d =>
    exact ⟨name ++ c_colon :: c_minus :: d, by simp [DqItem.render], by simp [List.all_append, hname', hd],
      envLookup_default env name d hname, by simp [DqItem.newlines, nlCount_cons]⟩

/-- Each case names the states the run passes through: `dqRun_inl` with the next state written out is checked by
unfolding one step, `simp [dqRun, …]` over the whole item costs several times as much. -/
theorem dq_item (env : Env) (i : DqItem) (acc : Bytes) (nl : Nat) (tail : Bytes)
    (hwf : i.wf = true) (hnext : i.okNext tail = true) :
    dqRun env ⟨.plain, acc, nl⟩ (i.render ++ tail) =
      dqRun env ⟨.plain, (i.value env).reverse ++ acc, nl + i.newlines⟩ tail := by
  cases i with
  | plain c =>
    simp only [DqItem.wf, Bool.and_eq_true, bne_iff_ne, ne_eq] at hwf
    obtain ⟨⟨⟨h1, h2⟩, h3⟩, h4⟩ := hwf
    exact dqRun_inl env _ ⟨.plain, c :: acc, nl⟩ _ _ (by simp [dqStep, dqPlain, h1, h2, h3, h4])
  | dollar =>
    cases tail with
    | nil => rfl
    | cons d ds =>
      have : (d = c_lbr && hasRbr ds) = false := by
        by_cases hd : d = c_lbr
        · subst hd; simpa [DqItem.okNext] using hnext
        · simp [hd]
      exact dqRun_inl env _ ⟨.plain, c_dollar :: acc, nl⟩ _ _ (by simp [dqStep, dqPlain, this])
  | nl => rfl
  | cont => rfl
  | letter l =>
    obtain ⟨v, hv⟩ := Option.isSome_iff_exists.mp hwf
    have hnd : isDec l = false := Bool.eq_false_iff.2 fun hd => by
      rw [simpleEsc_none (by simp only [isDec, Bool.and_eq_true, decide_eq_true_eq] at hd; omega)] at hv; cases hv
    have hnn : l ≠ c_nl := by rintro rfl; cases hv
    have hnx : l ≠ 120 := by rintro rfl; cases hv
    rw [DqItem.value, hv]
    exact dqRun_inl env ⟨.esc, acc, nl⟩ ⟨.plain, v :: acc, nl⟩ _ _ (by simp [dqStep, hnd, hnn, hnx, hv])
  | other c =>
    simp only [DqItem.wf, Bool.and_eq_true, bne_iff_ne, ne_eq, Bool.not_eq_true', Option.isNone_iff_eq_none] at hwf
    obtain ⟨⟨⟨h1, h2⟩, h3⟩, h4⟩ := hwf
    exact dqRun_inl env ⟨.esc, acc, nl⟩ ⟨.plain, c :: acc, nl⟩ _ _ (by simp [dqStep, h1, h2, h3, h4])
  | xlit => exact dqRun_hex_end env (.inl ⟨rfl, rfl⟩) acc nl tail hnext
  | hex hs =>
    simp only [DqItem.wf, Bool.and_eq_true, decide_eq_true_eq] at hwf
    obtain ⟨⟨hl1, hl2⟩, hall⟩ := hwf
    match hs, hl1, hl2, hall with
    | [h1], _, _, hall =>
      have hh1 : isHex h1 = true := by simpa using hall
      refine (dqRun_inl env ⟨.hex0, acc, nl⟩ ⟨.hex1 (hexVal h1), acc, nl⟩ _ _ (by simp [dqStep, hh1])).trans
        ((dqRun_hex_end env (.inr rfl) acc nl tail hnext).trans ?_)
      simp [DqItem.value, DqItem.newlines, hexValL]
    | [h1, h2], _, _, hall =>
      have hh : isHex h1 = true ∧ isHex h2 = true := by simpa using hall
      refine (dqRun_inl env ⟨.hex0, acc, nl⟩ ⟨.hex1 (hexVal h1), acc, nl⟩ _ _ (by simp [dqStep, hh.1])).trans
        ((dqRun_inl env _ ⟨.plain, (hexVal h1 * 16 + hexVal h2) :: acc, nl⟩ _ _ (by simp [dqStep, hh.2])).trans ?_)
      simp [DqItem.value, DqItem.newlines, hexValL]
  | oct ds =>
    simp only [DqItem.wf, Bool.and_eq_true, decide_eq_true_eq] at hwf
    obtain ⟨⟨⟨hl1, hl2⟩, hall⟩, hv⟩ := hwf
    cases ds with
    | nil => cases hl1
    | cons d1 rest =>
      have hfin : finDigits (1 + rest.length) ((d1 :: rest).all isOct) (octVal (d1 :: rest)) = .ok (octVal (d1 :: rest)) := by
        have : 1 + rest.length ≤ 3 := by simpa [Nat.add_comm] using hl2
        simp [finDigits, hall, this, Nat.not_lt.2 hv]
      exact (dqRun_bs_digits env d1 rest acc nl tail (all_isDec_of_isOct hall)).trans (dqRun_digits_end env hfin acc nl tail hnext)
  | env name dflt =>
    obtain ⟨body, hr, hb, hv, hn⟩ := envItem_body env name dflt hwf
    rw [hr, DqItem.value, ← hv, ← hn]
    refine (dqRun_inl env _ ⟨.envOpen, acc, nl⟩ _ _ (by simp [dqStep, dqPlain, hasRbr_append_rbr])).trans
      ((dqRun_inl env _ ⟨.env [], acc, nl⟩ _ _ rfl).trans ?_)
    simpa using dqRun_envBody env body [] acc nl tail hb

theorem dq_items (env : Env) (items : List DqItem) (acc : Bytes) (nl : Nat) (tail : Bytes)
    (h : NormalDq items tail) :
    dqRun env ⟨.plain, acc, nl⟩ (renderDq items ++ tail) =
      dqRun env ⟨.plain, (valueDq env items).reverse ++ acc, nl + newlinesDq items⟩ tail := by
  induction items generalizing acc nl with
  | nil => simp [renderDq, valueDq, newlinesDq]
  | cons i is ih =>
    obtain ⟨hwf, hnext, hrest⟩ := h
    simp only [renderDq, List.append_assoc]
    rw [dq_item env i acc nl _ hwf hnext, ih _ _ hrest]
    simp [valueDq, newlinesDq, Nat.add_assoc]

theorem sq_item (i : SqItem) (acc : Bytes) (nl : Nat) (tail : Bytes) (hwf : i.wf = true) :
    sqRun .plain acc nl (i.render ++ tail) = sqRun .plain (i.value.reverse ++ acc) (nl + i.newlines) tail := by
  cases i with
  | plain c =>
    simp only [SqItem.wf, Bool.and_eq_true, bne_iff_ne, ne_eq] at hwf
    simp [SqItem.render, SqItem.value, SqItem.newlines, sqRun, hwf.1.1, hwf.1.2, hwf.2]
  | nl => rfl
  | cont => rfl
  | escQuote => rfl
  | escBackslash => rfl
  | keep c =>
    simp only [SqItem.wf, Bool.and_eq_true, bne_iff_ne, ne_eq] at hwf
    simp [SqItem.render, SqItem.value, SqItem.newlines, sqRun, hwf.1.1, hwf.1.2, hwf.2]

theorem sq_items (items : List SqItem) (acc : Bytes) (nl : Nat) (tail : Bytes)
    (h : ∀ i ∈ items, i.wf = true) :
    sqRun .plain acc nl (renderSq items ++ tail) =
      sqRun .plain ((valueSq items).reverse ++ acc) (nl + newlinesSq items) tail := by
  induction items generalizing acc nl with
  | nil => simp [renderSq, valueSq, newlinesSq]
  | cons i is ih =>
    simp only [renderSq, List.append_assoc]
    rw [sq_item i acc nl _ (h i (by simp)), ih _ _ (fun j hj => h j (by simp [hj]))]
    simp [valueSq, newlinesSq, Nat.add_assoc]

end Confuse
