import Confuse.Model.Path
/-!
# The option lens

`Cfg.getOpt` / `Cfg.setOpt` through an `OptRef`: get-put, put-put, put-get, and the fact that the lens reads and
writes the option lists only - the non-recursive part of a context (`info`: flags, position, print filter) is
neither looked at nor changed.
-/
namespace Confuse

theorem listSet_eq_set {α} : ∀ (l : List α) (i : Nat) (y : α), listSet l i y = l.set i y
  | [], _, _ => rfl
  | _ :: _, 0, _ => rfl
  | x :: xs, n + 1, y => congrArg (x :: ·) (listSet_eq_set xs n y)

theorem listSet_get {α} (l : List α) (i : Nat) (y : α) (h : (l[i]?).isSome) : (listSet l i y)[i]? = some y := by
  rw [listSet_eq_set]; exact List.getElem?_set_self (by simpa using h)

theorem listSet_get_ne {α} (l : List α) (i j : Nat) (y : α) (h : i ≠ j) : (listSet l i y)[j]? = l[j]? := by
  rw [listSet_eq_set]; exact List.getElem?_set_ne h

theorem listSet_length {α} (l : List α) (i : Nat) (y : α) : (listSet l i y).length = l.length := by
  rw [listSet_eq_set]; exact List.length_set

theorem listSet_listSet {α} (l : List α) (i : Nat) (x y : α) : listSet (listSet l i x) i y = listSet l i y := by
  simp only [listSet_eq_set, List.set_set]

theorem listSet_self {α} (l : List α) (i : Nat) (x : α) (h : l[i]? = some x) : listSet l i x = l := by
  rw [listSet_eq_set]
  obtain ⟨hi, rfl⟩ := List.getElem?_eq_some_iff.1 h
  exact List.set_getElem_self hi

theorem listSet_append_cons {α} (l : List α) (x y : α) (r : List α) : listSet (l ++ x :: r) l.length y = l ++ y :: r := by
  rw [listSet_eq_set, List.set_append_right _ _ (Nat.le_refl _), Nat.sub_self]; rfl

theorem listSet_map {α β} (g : α → β) (l : List α) (i : Nat) (y : α) : (listSet l i y).map g = listSet (l.map g) i (g y) := by
  simp only [listSet_eq_set, List.map_set]

theorem all_listSet {α} (p : α → Bool) (l : List α) (i : Nat) (y : α) (hl : l.all p = true) (hy : p y = true) :
    (listSet l i y).all p = true := by
  rw [listSet_eq_set, List.all_eq_true] at *
  exact fun x hx => (List.mem_or_eq_of_mem_set hx).elim (hl x) (· ▸ hy)

@[simp] theorem opts_setInfo (c : Cfg) (i : CfgInfo) : (c.setInfo i).opts = c.opts := rfl
theorem opts_setOpts (c : Cfg) (a : List Opt) : (c.setOpts a).opts = a := rfl
theorem setOpts_setOpts (c : Cfg) (a b : List Opt) : (c.setOpts a).setOpts b = c.setOpts b := rfl
theorem setOpts_self (c : Cfg) : c.setOpts c.opts = c := by cases c; rfl
theorem opts_setLine (c : Cfg) (n : Nat) : (c.setLine n).opts = c.opts := rfl
@[simp] theorem setOpts_line (c : Cfg) (os : List Opt) : (c.setOpts os).line = c.line := rfl
@[simp] theorem setInfo_line (c : Cfg) (i : CfgInfo) : (c.setInfo i).line = i.line := rfl
@[simp] theorem setLine_line (c : Cfg) (n : Nat) : (c.setLine n).line = n := rfl
@[simp] theorem setLine_setLine (c : Cfg) (x y : Nat) : (c.setLine x).setLine y = c.setLine y := rfl
theorem setLine_same (c : Cfg) : c.setLine c.line = c := by cases c; rfl
@[simp] theorem setLine_flags (c : Cfg) (n : Nat) : (c.setLine n).flags = c.flags := rfl

theorem child_setInfo (c : Cfg) (i : CfgInfo) (oi ii : Nat) : (c.setInfo i).child oi ii = c.child oi ii := rfl

theorem getOpt_setInfo (c : Cfg) (i : CfgInfo) (r : OptRef) : (c.setInfo i).getOpt r = c.getOpt r := by
  obtain ⟨steps, leaf⟩ := r
  cases steps <;> rfl

theorem getOpt_setLine (c : Cfg) (n : Nat) (r : OptRef) : (c.setLine n).getOpt r = c.getOpt r :=
  getOpt_setInfo c _ r

theorem updOptAt_setInfo (g : Opt → Opt) (c : Cfg) (i : CfgInfo) (steps : List (Nat × Nat)) (leaf : Nat) :
    updOptAt g (c.setInfo i) steps leaf = (updOptAt g c steps leaf).setInfo i := by
  cases steps with
  | nil => simp only [updOptAt, opts_setInfo]; cases c.opts[leaf]? <;> rfl
  | cons st rest =>
    simp only [updOptAt, child_setInfo]
    cases c.child st.1 st.2 with
    | none => rfl
    | some s => simp only [Cfg.setChild, opts_setInfo]; cases c.opts[st.1]? <;> rfl

theorem updOptAt_info (g : Opt → Opt) (c : Cfg) (steps : List (Nat × Nat)) (leaf : Nat) : (updOptAt g c steps leaf).info = c.info := by
  have h := updOptAt_setInfo g c c.info steps leaf
  rw [show c.setInfo c.info = c by cases c; rfl] at h
  rw [h]; rfl

theorem setOpt_setInfo (c : Cfg) (i : CfgInfo) (r : OptRef) (o : Opt) : (c.setInfo i).setOpt r o = (c.setOpt r o).setInfo i :=
  updOptAt_setInfo _ c i r.steps r.leaf

@[simp] theorem setOpt_info (c : Cfg) (r : OptRef) (o : Opt) : (c.setOpt r o).info = c.info := updOptAt_info _ c r.steps r.leaf
@[simp] theorem setOpt_line (c : Cfg) (r : OptRef) (o : Opt) : (c.setOpt r o).line = c.line := by simp [Cfg.line]
@[simp] theorem setOpt_flags (c : Cfg) (r : OptRef) (o : Opt) : (c.setOpt r o).flags = c.flags := by simp [Cfg.flags]

theorem setOpt_setLine (c : Cfg) (n : Nat) (r : OptRef) (o : Opt) : (c.setLine n).setOpt r o = (c.setOpt r o).setLine n := by
  simp [Cfg.setLine, setOpt_setInfo]

theorem child_eq_some {c : Cfg} {oi ii : Nat} {s : Cfg} :
    c.child oi ii = some s ↔ ∃ o, c.opts[oi]? = some o ∧ o.vals[ii]? = some (.sec s) := by
  unfold Cfg.child
  cases c.opts[oi]? with
  | none => simp
  | some o =>
    simp only [Option.some.injEq, exists_eq_left']
    cases o.vals[ii]? with
    | none => simp
    | some v => cases v <;> simp

theorem child_setChild (c : Cfg) (oi ii : Nat) (s s' : Cfg) (h : c.child oi ii = some s) :
    (c.setChild oi ii s').child oi ii = some s' := by
  obtain ⟨o, ho, hv⟩ := child_eq_some.1 h
  refine child_eq_some.2 ⟨o.setVals (listSet o.vals ii (.sec s')), ?_, ?_⟩
  · simp only [Cfg.setChild, ho, opts_setOpts]
    exact listSet_get _ _ _ (by simp [ho])
  · cases o
    exact listSet_get _ _ _ (by simpa [Opt.vals] using congrArg Option.isSome hv)

theorem getOptAt_updOptAt (g : Opt → Opt) : ∀ (steps : List (Nat × Nat)) (c : Cfg) (leaf : Nat) (o : Opt),
    getOptAt c steps leaf = some o → getOptAt (updOptAt g c steps leaf) steps leaf = some (g o) := by
  intro steps
  induction steps with
  | nil =>
    intro c leaf o h
    obtain ⟨info, opts⟩ := c
    simp only [getOptAt, Cfg.opts] at h
    simp only [updOptAt, Cfg.opts, h, getOptAt, Cfg.setOpts]
    exact listSet_get _ _ _ (by simp [h])
  | cons st rest ih =>
    intro c leaf o h
    obtain ⟨oi, ii⟩ := st
    simp only [getOptAt] at h
    split at h
    · rename_i s hs
      simp only [updOptAt, hs, getOptAt]
      rw [child_setChild c oi ii s _ hs]
      exact ih s leaf o h
    · simp at h

theorem getOpt_setOpt (c : Cfg) (r : OptRef) (o o' : Opt) (h : c.getOpt r = some o) :
    (c.setOpt r o').getOpt r = some o' :=
  getOptAt_updOptAt (fun _ => o') r.steps c r.leaf o h

theorem setChild_setChild (c : Cfg) (oi ii : Nat) (s s' : Cfg) : (c.setChild oi ii s).setChild oi ii s' = c.setChild oi ii s' := by
  unfold Cfg.setChild
  cases ho : c.opts[oi]? with
  | none => simp [ho]
  | some o =>
    simp only [opts_setOpts]
    rw [listSet_get _ _ _ (by simp [ho])]
    simp only [setOpts_setOpts, listSet_listSet]
    cases o
    simp [Opt.setVals, Opt.vals, listSet_listSet, Opt.info, Opt.flags, Opt.subs, Opt.comment]

theorem updOptAt_updOptAt (a b : Opt) : ∀ (steps : List (Nat × Nat)) (c : Cfg) (leaf : Nat),
    updOptAt (fun _ => b) (updOptAt (fun _ => a) c steps leaf) steps leaf = updOptAt (fun _ => b) c steps leaf := by
  intro steps
  induction steps with
  | nil =>
    intro c leaf
    simp only [updOptAt]
    cases ho : c.opts[leaf]? with
    | none => simp [ho]
    | some o =>
      simp only [opts_setOpts]
      rw [listSet_get _ _ _ (by simp [ho])]
      simp [setOpts_setOpts, listSet_listSet]
  | cons st rest ih =>
    intro c leaf
    obtain ⟨oi, ii⟩ := st
    simp only [updOptAt]
    cases hc : c.child oi ii with
    | none => simp [hc]
    | some s =>
      rw [child_setChild c oi ii s _ hc]
      simp only [setChild_setChild, ih]

theorem setOpt_setOpt (c : Cfg) (r : OptRef) (a b : Opt) : (c.setOpt r a).setOpt r b = c.setOpt r b :=
  updOptAt_updOptAt a b r.steps c r.leaf

theorem setChild_self (c : Cfg) (oi ii : Nat) (s : Cfg) (h : c.child oi ii = some s) : c.setChild oi ii s = c := by
  obtain ⟨o, ho, hv⟩ := child_eq_some.1 h
  have : o.setVals (listSet o.vals ii (.sec s)) = o := by
    cases o; simp only [Opt.setVals, Opt.vals] at hv ⊢; rw [listSet_self _ _ _ hv]; rfl
  simp only [Cfg.setChild, ho, this, listSet_self _ _ _ ho, setOpts_self]

theorem updOptAt_self : ∀ (steps : List (Nat × Nat)) (c : Cfg) (leaf : Nat) (o : Opt),
    getOptAt c steps leaf = some o → updOptAt (fun _ => o) c steps leaf = c := by
  intro steps
  induction steps with
  | nil =>
    intro c leaf o h
    simp only [getOptAt] at h
    simp only [updOptAt, h, listSet_self _ _ _ h, setOpts_self]
  | cons st rest ih =>
    intro c leaf o h
    obtain ⟨oi, ii⟩ := st
    simp only [getOptAt] at h
    simp only [updOptAt]
    cases hc : c.child oi ii with
    | none => rfl
    | some s =>
      simp only [hc] at h ⊢
      rw [ih s leaf o h, setChild_self c oi ii s hc]

theorem setOpt_self (c : Cfg) (r : OptRef) (o : Opt) (h : c.getOpt r = some o) : c.setOpt r o = c :=
  updOptAt_self r.steps c r.leaf o h

theorem getOpt_top (c : Cfg) (pre : List Opt) (o0 : Opt) (post : List Opt) (h : c.opts = pre ++ o0 :: post) :
    c.getOpt ⟨[], pre.length⟩ = some o0 := by
  simp [Cfg.getOpt, getOptAt, h]

theorem setOpt_top (c : Cfg) (pre : List Opt) (o0 o1 : Opt) (post : List Opt) (h : c.opts = pre ++ o0 :: post) :
    (c.setOpt ⟨[], pre.length⟩ o1).opts = pre ++ o1 :: post := by
  obtain ⟨info, opts⟩ := c
  cases h
  simp [Cfg.setOpt, updOptAt, Cfg.opts, Cfg.setOpts, listSet_append_cons]

theorem getOpt_appended (c : Cfg) (o : Opt) : (c.setOpts (c.opts ++ [o])).getOpt ⟨[], c.opts.length⟩ = some o :=
  getOpt_top _ c.opts o [] rfl

theorem child_setOpts_ne (c : Cfg) (leaf oj ij : Nat) (o : Opt) (h : oj ≠ leaf) :
    (c.setOpts (listSet c.opts leaf o)).child oj ij = c.child oj ij := by
  unfold Cfg.child
  simp only [Cfg.setOpts, Cfg.opts]
  rw [listSet_get_ne _ _ _ _ (Ne.symm h)]

theorem child_setChild_ne (c : Cfg) (oi ii oj ij : Nat) (s : Cfg) (h : ¬ (oi = oj ∧ ii = ij)) :
    (c.setChild oi ii s).child oj ij = c.child oj ij := by
  unfold Cfg.setChild
  cases ho : c.opts[oi]? with
  | none => rfl
  | some o =>
    by_cases h1 : oi = oj
    · subst h1
      have h2 : ii ≠ ij := fun e => h ⟨rfl, e⟩
      simp only [Cfg.child, opts_setOpts, listSet_get c.opts oi _ (by simp [ho]), ho]
      cases o
      simp only [Opt.setVals, Opt.vals, listSet_get_ne _ _ _ _ h2]
    · exact child_setOpts_ne c oi oj ij _ (Ne.symm h1)

theorem opts_setChild_ne (c : Cfg) (oi ii k : Nat) (s : Cfg) (h : k ≠ oi) :
    (c.setChild oi ii s).opts[k]? = c.opts[k]? := by
  unfold Cfg.setChild
  cases c.opts[oi]? with
  | none => rfl
  | some o => simp only [Cfg.setOpts, Cfg.opts]; rw [listSet_get_ne _ _ _ _ (Ne.symm h)]

end Confuse
