import Confuse.Lemmas.Parser
import Confuse.Lemmas.Store
/-!
# A schema without deprecated options stays one

`ndCfg c`: no option at any depth of the tree `c`, and no declaration it can still instantiate,
carries the DEPRECATED flag.  Every operation of the store and of the token machine preserves it.
-/
namespace Confuse

mutual
def ndDecl : Decl → Bool
  | .mk _ f subs => !f.deprecated && ndDecls subs
def ndDecls : List Decl → Bool
  | [] => true
  | d :: ds => ndDecl d && ndDecls ds
end

mutual
def ndVal : Val → Bool
  | .sec c => ndCfg c
  | _ => true
def ndVals : List Val → Bool
  | [] => true
  | v :: vs => ndVal v && ndVals vs
def ndOpt : Opt → Bool
  | .mk _ f subs vs _ => !f.deprecated && ndDecls subs && ndVals vs
def ndOpts : List Opt → Bool
  | [] => true
  | o :: os => ndOpt o && ndOpts os
def ndCfg : Cfg → Bool
  | .mk _ os => ndOpts os
end

theorem ndVals_all (vs : List Val) : ndVals vs = vs.all ndVal := by
  induction vs with
  | nil => rfl
  | cons v vs ih => simp [ndVals, ih]

theorem ndOpts_all (os : List Opt) : ndOpts os = os.all ndOpt := by
  induction os with
  | nil => rfl
  | cons o os ih => simp [ndOpts, ih]

theorem ndOpt_iff (o : Opt) : ndOpt o = true ↔ o.flags.deprecated = false ∧ ndDecls o.subs = true ∧ ndVals o.vals = true := by
  cases o; simp [ndOpt, Opt.flags, Opt.subs, Opt.vals, and_assoc]

theorem ndCfg_iff (c : Cfg) : ndCfg c = true ↔ ndOpts c.opts = true := by cases c; simp [ndCfg, Cfg.opts]

theorem ndVals_append (a b : List Val) : ndVals (a ++ b) = (ndVals a && ndVals b) := by
  simp [ndVals_all, List.all_append]
theorem ndOpts_append (a b : List Opt) : ndOpts (a ++ b) = (ndOpts a && ndOpts b) := by
  simp [ndOpts_all, List.all_append]

theorem ndOpt_of {o o' : Opt} (h : ndOpt o = true) (hd : o'.flags.deprecated = o.flags.deprecated) (hs : o'.subs = o.subs)
    (hv : ndVals o'.vals = true) : ndOpt o' = true :=
  have hp := (ndOpt_iff o).1 h
  (ndOpt_iff o').2 ⟨hd.trans hp.1, hs ▸ hp.2.1, hv⟩

theorem ndVals_of (o : Opt) (h : ndOpt o = true) : ndVals o.vals = true := ((ndOpt_iff o).1 h).2.2

theorem opts_get_nd {c : Cfg} {i : Nat} {o : Opt} (h : ndCfg c = true) (ho : c.opts[i]? = some o) : ndOpt o = true := by
  have := (ndCfg_iff c).1 h
  rw [ndOpts_all, List.all_eq_true] at this
  exact this o (List.mem_of_getElem? ho)

theorem vals_get_nd {o : Opt} {i : Nat} {v : Val} (h : ndOpt o = true) (hv : o.vals[i]? = some v) : ndVal v = true := by
  have := ndVals_of o h
  rw [ndVals_all, List.all_eq_true] at this
  exact this v (List.mem_of_getElem? hv)

theorem setOpts_nd (c : Cfg) (os : List Opt) (h : ndOpts os = true) : ndCfg (c.setOpts os) = true := by
  cases c; simpa [Cfg.setOpts, ndCfg] using h

theorem setVals_nd (o : Opt) (vs : List Val) (h : ndOpt o = true) (hv : ndVals vs = true) : ndOpt (o.setVals vs) = true :=
  ndOpt_of h rfl rfl hv

theorem setFlags_nd (o : Opt) (fl : Flags) (h : ndOpt o = true) (hd : fl.deprecated = o.flags.deprecated) :
    ndOpt (o.setFlags fl) = true :=
  ndOpt_of h hd rfl (ndVals_of o h)

theorem opts_listSet_nd {c : Cfg} (i : Nat) {o : Opt} (h : ndCfg c = true) (ho : ndOpt o = true) :
    ndCfg (c.setOpts (listSet c.opts i o)) = true := by
  refine setOpts_nd _ _ ?_
  rw [ndOpts_all]
  exact all_listSet _ _ _ _ (by rw [← ndOpts_all]; exact (ndCfg_iff c).1 h) ho

theorem vals_listSet_nd {o : Opt} (i : Nat) {v : Val} (h : ndOpt o = true) (hv : ndVal v = true) :
    ndVals (listSet o.vals i v) = true := by
  rw [ndVals_all]
  exact all_listSet _ _ _ _ (by rw [← ndVals_all]; exact ndVals_of o h) hv

theorem setSec_nd {o : Opt} (i : Nat) {s : Cfg} (h : ndOpt o = true) (hs : ndCfg s = true) :
    ndOpt (o.setVals (listSet o.vals i (.sec s))) = true :=
  setVals_nd o _ h (vals_listSet_nd i h (by simpa [ndVal] using hs))

theorem ndVals_leaf (vs : List Val) (h : vs.all Val.leaf = true) : ndVals vs = true := by
  rw [ndVals_all, List.all_eq_true] at *
  intro v hv
  have := h v hv
  cases v <;> first | rfl | cases this

mutual
theorem mkOpt_nd (ci : CfgInfo) : ∀ d : Decl, ndDecl d = true → ndOpt (mkOpt ci d) = true
  | .mk info flags subs => by
    intro h
    simp only [ndDecl, Bool.and_eq_true, Bool.not_eq_true'] at h
    rcases mkOpt_cases ci info flags subs with hs | ⟨-, hp⟩
    · rw [hs]
      simp [ndOpt, ndVals, ndVal, ndCfg, h.1, h.2, mkOpts_nd (sectionInfo ci info.name flags none) subs h.2]
    · exact (ndOpt_iff _).2 ⟨by rw [hp.dep]; exact h.1, by rw [hp.subs]; exact h.2, ndVals_leaf _ hp.leaf⟩
theorem mkOpts_nd (ci : CfgInfo) : ∀ ds : List Decl, ndDecls ds = true → ndOpts (mkOpts ci ds) = true
  | [] => by intro _; rfl
  | d :: ds => by
    intro h
    simp only [ndDecls, Bool.and_eq_true] at h
    simp [mkOpts, ndOpts, mkOpt_nd ci d h.1, mkOpts_nd ci ds h.2]
end

theorem mkSection_nd (ci : CfgInfo) (o : Opt) (t : Option Bytes) (h : ndOpt o = true) : ndCfg (mkSection ci o t) = true := by
  unfold mkSection
  simp only [ndCfg]
  exact mkOpts_nd _ _ ((ndOpt_iff o).1 h).2.1

theorem cfgInit_nd (decls : List Decl) (flags : Flags) (h : ndDecls decls = true) : ndCfg (cfgInit decls flags) = true := by
  unfold cfgInit; simp only [ndCfg]; exact mkOpts_nd _ _ h

theorem child_nd (c : Cfg) (oi ii : Nat) (s : Cfg) (h : ndCfg c = true) (hc : c.child oi ii = some s) : ndCfg s = true := by
  obtain ⟨o, ho, hv⟩ := child_eq_some.1 hc
  simpa [ndVal] using vals_get_nd (opts_get_nd h ho) hv

theorem getOptAt_nd : ∀ (steps : List (Nat × Nat)) (c : Cfg) (leaf : Nat) (o : Opt), ndCfg c = true →
    getOptAt c steps leaf = some o → ndOpt o = true := by
  intro steps
  induction steps with
  | nil => intro c leaf o h hg; exact opts_get_nd h hg
  | cons st rest ih =>
    intro c leaf o h hg
    obtain ⟨oi, ii⟩ := st
    simp only [getOptAt] at hg
    cases hc : c.child oi ii with
    | none => simp [hc] at hg
    | some s => simp only [hc] at hg; exact ih s leaf o (child_nd c oi ii s h hc) hg

theorem getOpt_nd (c : Cfg) (r : OptRef) (o : Opt) (h : ndCfg c = true) (hg : c.getOpt r = some o) : ndOpt o = true :=
  getOptAt_nd r.steps c r.leaf o h hg

theorem setChild_nd (c : Cfg) (oi ii : Nat) (s : Cfg) (h : ndCfg c = true) (hs : ndCfg s = true) : ndCfg (c.setChild oi ii s) = true := by
  unfold Cfg.setChild
  cases ho : c.opts[oi]? with
  | none => exact h
  | some o => exact opts_listSet_nd oi h (setSec_nd ii (opts_get_nd h ho) hs)

theorem updOptAt_nd (g : Opt → Opt) (hg : ∀ o, ndOpt o = true → ndOpt (g o) = true) :
    ∀ (steps : List (Nat × Nat)) (c : Cfg) (leaf : Nat), ndCfg c = true → ndCfg (updOptAt g c steps leaf) = true := by
  intro steps
  induction steps with
  | nil =>
    intro c leaf h
    simp only [updOptAt]
    cases ho : c.opts[leaf]? with
    | none => exact h
    | some o => exact opts_listSet_nd leaf h (hg o (opts_get_nd h ho))
  | cons st rest ih =>
    intro c leaf h
    obtain ⟨oi, ii⟩ := st
    simp only [updOptAt]
    cases hc : c.child oi ii with
    | none => exact h
    | some s => exact setChild_nd c oi ii _ h (ih s leaf (child_nd c oi ii s h hc))

theorem setOpt_nd (c : Cfg) (r : OptRef) (o : Opt) (h : ndCfg c = true) (ho : ndOpt o = true) : ndCfg (c.setOpt r o) = true :=
  updOptAt_nd (fun _ => o) (fun _ _ => ho) r.steps c r.leaf h

theorem setInfo_nd (c : Cfg) (i : CfgInfo) (h : ndCfg c = true) : ndCfg (c.setInfo i) = true := by
  cases c; simpa [Cfg.setInfo, ndCfg, Cfg.opts] using h

theorem addLine_nd (f : Frame) (nl : Nat) (h : ndCfg f.cfg = true) : ndCfg (f.addLine nl).cfg = true := setInfo_nd _ _ h

theorem freeValue_nd (o : Opt) (h : ndOpt o = true) : ndOpt (freeValue o).1 = true :=
  ndOpt_of h rfl rfl rfl

theorem dropDefaults_nd (o : Opt) (h : ndOpt o = true) : ndOpt (dropDefaults o).1 = true := by
  rw [dropDefaults_eq]
  refine ndOpt_of h rfl rfl ?_
  show ndVals o.base = true
  unfold Opt.base
  split
  · rfl
  · exact ndVals_of o h

theorem setoptStore_nd (ci : CfgInfo) (o1 : Opt) (cv : Conv) (v : Option Bytes) (app : Bool) (found : Option Nat)
    (h : ndOpt o1 = true) : ndVals (setoptStore ci o1 cv v app found).2.1 = true := by
  unfold setoptStore
  simp only []
  -- the cell that is written: a scalar, a fresh section, or the section cell that is there
  have hnv : ∀ (old : Option Val), (∀ x, old = some x → ndVal x = true) → ndVal (match cv with
      | .int v => Val.int v | .flt b => .flt b | .bool b => .bool b | .str s => .str (some s) | .ptr p => .ptr p
      | .sec => (match old with
        | some (.sec c) => if o1.flags.multi then .sec (mkSection ci o1 v) else .sec c
        | _ => .sec (mkSection ci o1 v))) = true := by
    intro old hold
    cases cv with
    | sec =>
      simp only []
      split
      · split
        · simpa [ndVal] using mkSection_nd ci o1 v h
        · exact hold _ rfl
      · simpa [ndVal] using mkSection_nd ci o1 v h
    | _ => rfl
  split
  · rw [ndVals_append, ndVals_of o1 h]
    simp only [ndVals, Bool.and_true, Bool.true_and]
    exact hnv none nofun
  · exact vals_listSet_nd _ h (hnv _ fun x hx => vals_get_nd h hx)

theorem setopt_nd (orc : Oracle) (k : Nat) (ci : CfgInfo) (o : Opt) (v : Option Bytes) (h : ndOpt o = true) :
    ndOpt (setopt orc k ci o v).opt = true := by
  rcases setopt_cases orc k ci o v with ⟨_, -, e⟩ | ⟨_, _, -, -, -, -, e⟩ | ⟨p, -, e⟩ <;> rw [e]
  · exact h
  · exact dropDefaults_nd o h
  · exact ndOpt_of h rfl rfl (setoptStore_nd ci _ p.1 v _ _ (dropDefaults_nd o h))

theorem inheritComment_nd (f : Frame) (h : ndCfg f.cfg = true) : ndCfg (inheritComment f).cfg = true := by
  rcases inheritComment_cases f with e | ⟨c, r, o, -, -, hget, e⟩ <;> rw [e]
  · exact h
  · have ho := getOpt_nd f.cfg r o h hget
    exact setOpt_nd _ _ _ h (ndOpt_of ho rfl rfl (ndVals_of o ho))

theorem writeBack_nd (p c : Frame) (hp : ndCfg p.cfg = true) (hc : ndCfg c.cfg = true) : ndCfg (writeBack p c).cfg = true := by
  unfold writeBack
  cases c.back with
  | none => exact hp
  | some ri =>
    obtain ⟨r, i⟩ := ri
    simp only []
    cases hget : p.cfg.getOpt r with
    | none => exact hp
    | some o => exact setOpt_nd _ _ _ hp (setSec_nd i (getOpt_nd p.cfg r o hp hget) hc)

theorem noPending_of_nd (f : Frame) (h : ndCfg f.cfg = true) : noPendingDeprecated f :=
  fun r o _ hget => ((ndOpt_iff o).1 (getOpt_nd f.cfg r o h hget)).1

end Confuse
