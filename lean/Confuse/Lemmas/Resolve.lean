import Confuse.Lemmas.Path
import Confuse.Lemmas.Span
/-!
# The path resolver

One turn of `secidxLoop` on a name without separators (`secidxLoop_leaf`) and on a name whose first component is
followed by one (`secidxLoop_sep`), `cfg_getopt` on a non-empty name (`getoptPath_key`, `getoptPath_loop`), and the
contract callers rely on (`getoptPath_spec`): the resolver returns references that exist, is silent when it resolves,
and says so when it finds nothing.
-/
namespace Confuse

theorem findOptIdx_lt (nocase : Bool) (name : Bytes) : ∀ (os : List Opt) (i k : Nat), findOptIdx nocase name os i = some k → k < i + os.length := by
  intro os
  induction os with
  | nil => intro i k h; simp [findOptIdx] at h
  | cons o os ih =>
    intro i k h
    simp only [findOptIdx] at h
    split at h
    · simp only [Option.some.injEq] at h; subst h; simp
    · have := ih (i + 1) k h
      simp only [List.length_cons]; omega

theorem findOptIdx_none (nc : Bool) (name : Bytes) : ∀ (os : List Opt) (k : Nat), findOptIdx nc name os k = none →
    ∀ p ∈ os, titleEq nc p.name name = false := by
  intro os
  induction os with
  | nil => intro k _ p hp; cases hp
  | cons o os ih =>
    intro k h p hp
    simp only [findOptIdx] at h
    split at h
    · cases h
    · rename_i hne
      rcases List.mem_cons.mp hp with rfl | hp
      · simpa using hne
      · exact ih (k + 1) h p hp

theorem titleEq_refl (nc : Bool) (a : Bytes) : titleEq nc a a = true := by
  cases nc <;> simp [titleEq, eqNoCase]

theorem findOptIdx_skip (nc : Bool) (name : Bytes) : ∀ (pre : List Opt) (o0 : Opt) (post : List Opt) (k : Nat),
    (∀ p ∈ pre, titleEq nc p.name name = false) → titleEq nc o0.name name = true →
    findOptIdx nc name (pre ++ o0 :: post) k = some (k + pre.length) := by
  intro pre
  induction pre with
  | nil => intro o0 post k _ h; simp [findOptIdx, h]
  | cons p ps ih =>
    intro o0 post k hp h
    have h1 := hp p (by simp)
    simp only [List.cons_append, findOptIdx, h1, Bool.false_eq_true, if_false]
    rw [ih o0 post (k + 1) (fun q hq => hp q (by simp [hq])) h]
    simp only [List.length_cons]
    congr 1; omega

theorem getoptLeaf_valid (c : Cfg) (name : Bytes) (i : Nat) (h : getoptLeaf c name = some i) : (c.opts[i]?).isSome := by
  have := findOptIdx_lt c.flags.nocase name c.opts 0 i h
  simp only [Nat.zero_add] at this
  simp [this]

theorem pathOpt_spec (sec : Cfg) (secname : Bytes) (oi : Nat) (o : Opt) (h : pathOpt sec secname = some (oi, o)) :
    sec.opts[oi]? = some o := by
  unfold pathOpt at h
  cases hl : getoptLeaf sec secname with
  | none => simp [hl] at h
  | some i =>
    simp only [hl] at h
    cases ho : sec.opts[i]? with
    | none => simp [ho] at h
    | some o' =>
      simp only [ho] at h
      split at h
      · simp only [Option.some.injEq, Prod.mk.injEq] at h
        obtain ⟨rfl, rfl⟩ := h
        exact ho
      · simp at h

theorem pathInst_spec (o : Opt) (i : Int) (ii : Nat) (s : Cfg) (h : pathInst o i = some (ii, s)) :
    i ≥ 0 ∧ o.vals[ii]? = some (.sec s) := by
  unfold pathInst at h
  split at h
  · rename_i hc
    simp only [Bool.and_eq_true, decide_eq_true_eq] at hc
    refine ⟨hc.1, ?_⟩
    cases hv : o.vals[i.toNat]? with
    | none => simp [hv] at h
    | some v =>
      cases v <;> simp [hv] at h
      obtain ⟨rfl, rfl⟩ := h
      exact hv
  · cases h

theorem pathQual_ge (o : Opt) (after : Bytes) (len : Nat) : len ≤ (pathQual o after len).2 := by
  unfold pathQual
  split
  · exact Nat.le_refl _
  · split
    · exact Nat.le_refl _
    · cases parseTitle (after.drop 1) with
      | none => exact Nat.le_refl _
      | some p =>
        obtain ⟨t, tl⟩ := p
        simp only []
        split <;> omega

theorem keyFirst_some {c : Cfg} {name : Bytes} {w : Bool} {i : Nat} (h : keyFirst c name w = some i) : getoptLeaf c name = some i := by
  unfold keyFirst at h
  split at h
  · exact h
  · cases h

theorem keyFirst_none {c : Cfg} (name : Bytes) (w : Bool) (h : c.flags.keystrval = false) : keyFirst c name w = none := by
  simp [keyFirst, h]

theorem keyFirst_key {c : Cfg} (name : Bytes) (h : c.flags.keystrval = true) : keyFirst c name false = getoptLeaf c name := by
  simp [keyFirst, h]

theorem cfgAt_append (c : Cfg) (steps : List (Nat × Nat)) (oi ii : Nat) :
    cfgAt c (steps ++ [(oi, ii)]) = (cfgAt c steps).bind (fun s => s.child oi ii) := by
  induction steps generalizing c with
  | nil => simp [cfgAt]
  | cons st rest ih =>
    obtain ⟨a, b⟩ := st
    simp only [List.cons_append, cfgAt]
    cases c.child a b with
    | none => rfl
    | some s => simp [ih]

theorem getOptAt_cfgAt (c : Cfg) (steps : List (Nat × Nat)) (leaf : Nat) :
    getOptAt c steps leaf = (cfgAt c steps).bind (fun s => s.opts[leaf]?) := by
  induction steps generalizing c with
  | nil => simp [getOptAt, cfgAt]
  | cons st rest ih =>
    obtain ⟨a, b⟩ := st
    simp only [getOptAt, cfgAt]
    cases c.child a b with
    | none => rfl
    | some s => simp [ih]

def plainName (n : Bytes) : Prop := n ≠ [] ∧ ∀ c ∈ n, isSep c = false

theorem plainName.all {n : Bytes} (h : plainName n) : n.all (fun c => !isSep c) = true :=
  List.all_eq_true.2 fun c hc => by rw [h.2 c hc]; rfl

theorem secidxLoop_leaf (fuel : Nat) (sec : Cfg) (steps : List (Nat × Nat)) (lo : Option OptRef) (li : Int) (name : Bytes)
    (hn : plainName name) :
    secidxLoop false (fuel + 1) sec steps lo li name =
      match getoptLeaf sec name with
      | some i => ⟨some ⟨steps, i⟩, -1, []⟩
      | none => ⟨none, -1, [.noSuchOption]⟩ := by
  rw [secidxLoop]
  simp only [takeWhile_all hn.all, List.drop_length, List.isEmpty_nil, Bool.false_eq_true, if_false,
    Bool.not_false, Bool.and_self, if_true]
  split <;> rfl

theorem secidxLoop_sep (fuel : Nat) (sec : Cfg) (steps : List (Nat × Nat)) (lo : Option OptRef) (li : Int)
    (n after : Bytes) (hn : plainName n) (ha : ∃ x xs, after = x :: xs ∧ isSep x = true) :
    secidxLoop false (fuel + 1) sec steps lo li (n ++ after) =
      match pathOpt sec n with
      | none => ⟨none, -1, [.noSubSection]⟩
      | some (oi, o) =>
        let q := pathQual o after n.length
        match pathInst o q.1 with
        | none => ⟨none, q.1, if !o.flags.multi then [.noSuchOption] else [.noSubSection]⟩
        | some (ii, s) =>
          let name1 := (n ++ after).drop q.2
          let seps := (name1.takeWhile (· == c_pipe)).length
          if !name1.isEmpty && seps == 0 then ⟨none, q.1, [.noSuchOption]⟩
          else secidxLoop false fuel s (steps ++ [(oi, ii)]) (some ⟨steps, oi⟩) q.1 (name1.drop seps) := by
  obtain ⟨x, xs, rfl, hx⟩ := ha
  have h0 : (n.length == 0) = false := beq_false_of_ne fun h => hn.1 (List.eq_nil_of_length_eq_zero h)
  have h1 : (n ++ x :: xs).isEmpty = false := by cases n <;> rfl
  rw [secidxLoop]
  simp only [(span_append xs hn.all (by rw [hx]; rfl)).1, List.drop_left, h1, List.isEmpty_cons, Bool.and_false,
    Bool.false_eq_true, if_false, h0, Bool.false_and]
  rfl

theorem getoptPath_key {c : Cfg} {name : Bytes} {i : Nat} (hne : name ≠ []) (h : keyFirst c name false = some i) :
    getoptPath c name = ⟨some ⟨[], i⟩, -1, []⟩ := by
  have he : name.isEmpty = false := List.isEmpty_eq_false_iff.2 hne
  simp only [getoptPath, getoptSecidx, he, Bool.false_eq_true, if_false, h]

theorem getoptPath_loop {c : Cfg} {name : Bytes} (hne : name ≠ []) (h : keyFirst c name false = none) :
    (getoptPath c name).ref = (secidxLoop false (name.length + 1) c [] none (-1) name).ref ∧
    (getoptPath c name).diags =
      if c.flags.ignoreUnknown || c.flags.keystrval then [] else (secidxLoop false (name.length + 1) c [] none (-1) name).diags := by
  have he : name.isEmpty = false := List.isEmpty_eq_false_iff.2 hne
  simp only [getoptPath, getoptSecidx, he, Bool.false_eq_true, if_false, h, Bool.not_false, Bool.true_and]
  by_cases hq : (c.flags.ignoreUnknown || c.flags.keystrval) = true
  · rw [if_pos hq, if_pos hq]; exact ⟨rfl, rfl⟩
  · rw [if_neg hq, if_neg hq]; exact ⟨rfl, rfl⟩

theorem getoptPath_quiet' (c : Cfg) (name : Bytes) (h : c.flags.ignoreUnknown = true ∨ c.flags.keystrval = true) :
    (getoptPath c name).diags = [] := by
  by_cases hne : name = []
  · subst hne; rfl
  cases hk : keyFirst c name false with
  | some i => rw [getoptPath_key hne hk]
  | none => rw [(getoptPath_loop hne hk).2, if_pos (by rcases h with h | h <;> simp [h])]

theorem secidx_setLine (w : Bool) (fuel : Nat) (c : Cfg) (n : Nat) (steps : List (Nat × Nat)) (lo : Option OptRef) (li : Int) (name : Bytes) :
    secidxLoop w fuel (c.setLine n) steps lo li name = secidxLoop w fuel c steps lo li name := by
  obtain ⟨i, o⟩ := c
  cases fuel with
  | zero => rfl
  | succ k => rfl

theorem getoptPath_setLine (c : Cfg) (n : Nat) (name : Bytes) : getoptPath (c.setLine n) name = getoptPath c name := by
  unfold getoptPath getoptSecidx
  split
  · rfl
  · rw [secidx_setLine]
    obtain ⟨i, o⟩ := c
    rfl

def PathOut.Sound (c : Cfg) (out : PathOut) : Prop :=
  match out.ref with
  | some r => (c.getOpt r).isSome ∧ out.diags = []
  | none => out.diags ≠ []

theorem PathOut.Sound.ite {c : Cfg} {p : Prop} [Decidable p] {a b : PathOut} (ha : a.Sound c) (hb : ¬p → b.Sound c) :
    (if p then a else b).Sound c :=
  iteInduction (fun _ => ha) hb

theorem secidx_sound (c : Cfg) : ∀ (fuel : Nat) (sec : Cfg) (steps : List (Nat × Nat)) (lo : Option OptRef) (li : Int) (name : Bytes),
    cfgAt c steps = some sec → name.length < fuel → (secidxLoop false fuel sec steps lo li name).Sound c := by
  intro fuel
  induction fuel with
  | zero => intro _ _ _ _ name _ hl; omega
  | succ n ih =>
    intro sec steps lo li name hsec hl
    rw [secidxLoop]
    have fin : PathOut.Sound c (match getoptLeaf sec name with
        | some i => ⟨some ⟨steps, i⟩, -1, []⟩
        | none => ⟨none, -1, [.noSuchOption]⟩) := by
      cases hg : getoptLeaf sec name with
      | none => exact List.cons_ne_nil _ _
      | some i =>
        refine ⟨?_, rfl⟩
        simp only [Cfg.getOpt, getOptAt_cfgAt, hsec, Option.bind_some]
        exact getoptLeaf_valid sec name i hg
    simp only [Bool.false_eq_true, if_false, Bool.not_false, Bool.true_and, Bool.false_and]
    -- an empty name, a last component, an empty first component: the single-level lookup (`.ite`, not `split`: the
    -- term is big)
    refine .ite fin fun _ => .ite fin fun _ => .ite fin fun hlen => ?_
    cases hpo : pathOpt sec (name.takeWhile (fun c => !isSep c)) with
    | none => exact List.cons_ne_nil _ _
    | some oo =>
      obtain ⟨oi, o⟩ := oo
      simp only []
      cases hpi : pathInst o (pathQual o (name.drop (name.takeWhile (fun c => !isSep c)).length) (name.takeWhile (fun c => !isSep c)).length).1 with
      | none => simp only [PathOut.Sound]; split <;> simp
      | some is =>
        obtain ⟨ii, s⟩ := is
        refine .ite (List.cons_ne_nil _ _) fun _ => ih s (steps ++ [(oi, ii)]) _ _ _ ?_ ?_
        · rw [cfgAt_append, hsec]
          exact child_eq_some.2 ⟨o, pathOpt_spec sec _ oi o hpo, (pathInst_spec o _ ii s hpi).2⟩
        · -- the step consumed its non-empty name
          have := pathQual_ge o (name.drop (name.takeWhile (fun c => !isSep c)).length) (name.takeWhile (fun c => !isSep c)).length
          have hpos : 0 < (name.takeWhile (fun c => !isSep c)).length := by
            simp only [beq_iff_eq] at hlen; omega
          have hle := (List.takeWhile_sublist (fun c => !isSep c) (l := name)).length_le
          simp only [List.length_drop]
          omega

theorem getoptPath_spec (c : Cfg) (name : Bytes) :
    (∀ r, (getoptPath c name).ref = some r → (c.getOpt r).isSome ∧ (getoptPath c name).diags = []) ∧
    (name ≠ [] → c.flags.ignoreUnknown = false → c.flags.keystrval = false →
      (getoptPath c name).ref = none → (getoptPath c name).diags ≠ []) := by
  by_cases hne : name = []
  · subst hne
    exact ⟨fun r h => (by cases h), fun h => absurd rfl h⟩
  cases hk : keyFirst c name false with
  | some i =>
    rw [getoptPath_key hne hk]
    refine ⟨fun r h => ⟨?_, rfl⟩, fun _ _ _ h => nomatch h⟩
    cases h
    exact getoptLeaf_valid c name i (keyFirst_some hk)
  | none =>
    obtain ⟨hr, hd⟩ := getoptPath_loop hne hk
    have h := secidx_sound c (name.length + 1) c [] none (-1) name rfl (Nat.lt_succ_self _)
    unfold PathOut.Sound at h
    rw [hr, hd]
    constructor
    · intro r hr'
      rw [hr'] at h
      exact ⟨h.1, by rw [h.2, ite_self]⟩
    · intro _ hi hkv hr'
      rw [hr'] at h
      rw [hi, hkv]
      exact h

theorem getoptPath_valid (c : Cfg) (name : Bytes) (r : OptRef) (h : (getoptPath c name).ref = some r) : (c.getOpt r).isSome :=
  ((getoptPath_spec c name).1 r h).1

theorem getoptPath_resolved_quiet (c : Cfg) (name : Bytes) (r : OptRef) (h : (getoptPath c name).ref = some r) : (getoptPath c name).diags = [] :=
  ((getoptPath_spec c name).1 r h).2

theorem getoptPath_unresolved_diag (c : Cfg) (name : Bytes) (hne : name ≠ []) (hi : c.flags.ignoreUnknown = false) (hk : c.flags.keystrval = false)
    (h : (getoptPath c name).ref = none) : (getoptPath c name).diags ≠ [] :=
  (getoptPath_spec c name).2 hne hi hk h

end Confuse
