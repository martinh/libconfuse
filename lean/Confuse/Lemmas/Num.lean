import Confuse.Spec.Numeral
/-!
# `strtol` on digit strings

What the numeral theorems of C04, C05 and C11 need of the model of `strtol`: digits and their values, the prefix
rules, and `convIntWith_digits`, the one place where `strtol`'s clamping meets the grammar's range test.
-/
namespace Confuse
open Confuse.Spec

theorem allDigits_cons (b c : Nat) (cs : Bytes) :
    allDigits b (c :: cs) = true ↔ digitVal c < b ∧ allDigits b cs = true := by
  simp [allDigits]

theorem digitVal_lt10 (c : Nat) : (digitVal c < 10) ↔ isDec c = true := by
  unfold digitVal
  split
  · rename_i h; simp only [h, iff_true]; simp only [isDec, Bool.and_eq_true, decide_eq_true_eq] at h; omega
  · rename_i h
    split
    · rename_i ha
      simp only [isAlpha, isUpper, isLower, toLower, Bool.or_eq_true, Bool.and_eq_true, decide_eq_true_eq] at ha ⊢
      constructor
      · intro hl; split at hl <;> omega
      · intro hd; exact absurd hd h
    · simp [h]

theorem takeDigits_all (b : Nat) (ds : Bytes) (acc : Nat) (h : allDigits b ds = true) :
    takeDigits b acc ds = (ds.foldl (fun a c => a * b + digitVal c) acc, []) := by
  induction ds generalizing acc with
  | nil => simp [takeDigits]
  | cons c cs ih =>
    obtain ⟨hc, hcs⟩ := (allDigits_cons ..).1 h
    simp only [takeDigits, hc, if_true, List.foldl_cons]
    exact ih _ hcs

theorem takeDigits_notall (b : Nat) (ds : Bytes) (acc : Nat) (h : allDigits b ds = false) :
    (takeDigits b acc ds).2 ≠ [] := by
  induction ds generalizing acc with
  | nil => simp [allDigits] at h
  | cons c cs ih =>
    by_cases hc : digitVal c < b
    · simp only [takeDigits, hc, if_true]
      apply ih
      simpa [allDigits, hc] using h
    · simp [takeDigits, hc]

theorem takeDigits_length (b : Nat) (ds : Bytes) (acc : Nat) : (takeDigits b acc ds).2.length ≤ ds.length := by
  induction ds generalizing acc with
  | nil => simp [takeDigits]
  | cons c cs ih =>
    simp only [takeDigits]
    split
    · exact Nat.le_trans (ih _) (by simp)
    · simp

theorem digit_not_space_sign (c b : Nat) (hb : b ≤ 36) (h : digitVal c < b) :
    isSpaceC c = false ∧ c ≠ c_minus ∧ c ≠ c_plus := by
  unfold digitVal at h
  split at h
  · rename_i hd
    simp only [isDec, Bool.and_eq_true, decide_eq_true_eq] at hd
    simp only [isSpaceC, Bool.or_eq_false_iff, Bool.and_eq_false_iff, decide_eq_false_iff_not, beq_eq_false_iff_ne, ne_eq]
    omega
  · split at h
    · rename_i ha
      simp only [isAlpha, isUpper, isLower, Bool.or_eq_true, Bool.and_eq_true, decide_eq_true_eq] at ha
      simp only [isSpaceC, Bool.or_eq_false_iff, Bool.and_eq_false_iff, decide_eq_false_iff_not, beq_eq_false_iff_ne, ne_eq]
      omega
    · omega

theorem splitSign_digit (c : Nat) (cs : Bytes) (h1 : c ≠ c_minus) (h2 : c ≠ c_plus) :
    splitSign (c :: cs) = (false, c :: cs) := by simp [splitSign, h1, h2]

theorem hexPrefix_false (base c : Nat) (cs : Bytes) (h : ∀ x t, c :: cs ≠ 48 :: x :: t) : hexPrefix base (c :: cs) = false := by
  unfold hexPrefix
  match cs with
  | [] => simp
  | [_] => simp
  | x :: y :: t =>
    have : c ≠ 48 := by intro e; subst e; exact h x (y :: t) rfl
    simp [this]

theorem hexPrefix_digits (base : Nat) (hb : base ≤ 16) (s : Bytes) (h : allDigits base s = true) :
    hexPrefix base s = false := by
  unfold hexPrefix
  match s, h with
  | [], _ => simp
  | [_], _ => simp
  | [_, _], _ => simp
  | _ :: x :: _ :: _, h =>
    have hx : digitVal x < base := ((allDigits_cons ..).1 ((allDigits_cons ..).1 h).2).1
    -- `x` and `X` count as the digit 33
    have h33 : digitVal 120 = 33 ∧ digitVal 88 = 33 := by decide
    have : x ≠ 120 ∧ x ≠ 88 := by
      constructor <;> (intro e; subst e; omega)
    simp [this.1, this.2]

theorem strtolC_unsigned (base b c : Nat) (cs : Bytes) (hc : digitVal c < 36)
    (hhex : hexPrefix base (c :: cs) = false)
    (hb : (if base = 0 then (if c = 48 then 8 else 10) else base) = b) :
    strtolC (c :: cs) base = strtolCore false b (c :: cs) (c :: cs) := by
  obtain ⟨hs, hm, hp⟩ := digit_not_space_sign c 36 (Nat.le_refl _) hc
  simp only [strtolC, List.dropWhile_cons_of_neg (Bool.eq_false_iff.1 hs), splitSign_digit c cs hm hp, hhex,
    Bool.false_eq_true, if_false, List.head?_cons, beq_iff_eq, Option.some.injEq, hb]

theorem strtol_empty8 : strtolC [] 8 = ⟨0, [], false⟩ := by decide

theorem strtolCore_all (neg : Bool) (b : Nat) (s r : Bytes) (hne : r ≠ []) (h : allDigits b r = true) :
    strtolCore neg b s r =
      (if neg then (if digitsValue b r > 9223372036854775808 then ⟨longMin, [], true⟩ else ⟨-(digitsValue b r : Int), [], false⟩)
       else (if digitsValue b r > 9223372036854775807 then ⟨longMax, [], true⟩ else ⟨(digitsValue b r : Int), [], false⟩)) := by
  unfold strtolCore
  rw [takeDigits_all b r 0 h]
  have : r.length ≠ 0 := by cases r <;> simp_all
  simp [digitsValue]
  intro h0; exact absurd h0.symm (by omega)

theorem strtolCore_rest (neg : Bool) (b : Nat) (s r : Bytes) (hs : s ≠ []) (h : allDigits b r = false) :
    (strtolCore neg b s r).rest ≠ [] := by
  unfold strtolCore
  have := takeDigits_notall b r 0 h
  generalize takeDigits b 0 r = t at this ⊢
  by_cases h1 : (t.2.length == r.length) = true
  · rw [if_pos h1]; exact hs
  · rw [if_neg h1]
    cases neg
    · simp only [Bool.false_eq_true, if_false]
      split <;> exact this
    · simp only [if_true]
      split <;> exact this

theorem convIntWith_digits (radix b : Nat) (tok r : Bytes) (neg : Bool)
    (hok : digitsOk tok radix = true) (hst : strtolC tok radix = strtolCore neg b tok r)
    (hne : r ≠ []) (hall : allDigits b r = true) :
    convIntWith radix tok =
      (let n : Int := if neg then -(digitsValue b r : Int) else digitsValue b r
       if longMin ≤ n ∧ n ≤ longMax then .ok n else .error .range) := by
  simp only [convIntWith, hok, hst, strtolCore_all neg b tok r hne hall, longMin, longMax,
    Bool.not_true, Bool.false_eq_true, if_false]
  generalize digitsValue b r = v
  cases neg <;> simp only [Bool.false_eq_true, if_false, if_true] <;> split
  · exact (if_neg (by omega)).symm
  · exact (if_pos (by omega)).symm
  · exact (if_neg (by omega)).symm
  · exact (if_pos (by omega)).symm

theorem convIntWith_junk (radix b : Nat) (tok r : Bytes) (neg : Bool)
    (hst : strtolC tok radix = strtolCore neg b tok r) (htok : tok ≠ []) (hall : allDigits b r = false) :
    convIntWith radix tok = .error .invalid := by
  have := strtolCore_rest neg b tok r htok hall
  simp only [convIntWith, hst]
  split
  · rfl
  · rw [if_pos]; simpa [List.isEmpty_iff] using this

end Confuse
