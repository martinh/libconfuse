import Confuse.Lemmas.Shift
/-!
# The scanner is stable under appending text

If a token is found inside `a`, the same token is found in `a ++ b`, with `b` left over behind the
rest — provided the decision did not hinge on the end of `a` (which it cannot when `a` ends in a
newline) nor on the unbounded look-ahead of `${` (inputs without `$`).  White space at the end of
`a` is skipped into `b`.
-/
namespace Confuse

def LexOut.app (o : LexOut) (b : Bytes) : LexOut := { o with rest := o.rest ++ b }

def Suffix (r a : Bytes) : Prop := ∃ pre, a = pre ++ r

theorem Suffix.cons {r a : Bytes} (c : Nat) (h : Suffix r a) : Suffix r (c :: a) := by
  obtain ⟨pre, rfl⟩ := h; exact ⟨c :: pre, rfl⟩
theorem Suffix.nil (a : Bytes) : Suffix [] a := ⟨a, by simp⟩
theorem suffix_drop (n : Nat) (a : Bytes) : Suffix (a.drop n) a :=
  ⟨a.take n, (List.take_append_drop n a).symm⟩

theorem sqRun_app (b : Bytes) : ∀ (a : Bytes) (mode : SqMode) (acc : Bytes) (nl : Nat),
    (sqRun mode acc nl a).tok.isErr = false → sqRun mode acc nl (a ++ b) = (sqRun mode acc nl a).app b := by
  intro a
  induction a with
  | nil => intro mode acc nl h; cases mode <;> cases h
  | cons c cs ih =>
    intro mode acc nl h
    rcases sqRun_cons mode acc c with ⟨mode', acc', e⟩ | ⟨_, e⟩
    · rw [e] at h; rw [List.cons_append, e, e]; exact ih _ _ _ h
    · rw [List.cons_append, e, e]; rfl

def NoDollar (a : Bytes) : Prop := ∀ c ∈ a, c ≠ c_dollar

theorem NoDollar.tail {c : Nat} {cs : Bytes} (h : NoDollar (c :: cs)) : NoDollar cs := fun x hx => h x (List.mem_cons_of_mem _ hx)
theorem NoDollar.head {c : Nat} {cs : Bytes} (h : NoDollar (c :: cs)) : c ≠ c_dollar := h c (by simp)
theorem NoDollar.suffix {r a : Bytes} (h : NoDollar a) (hs : Suffix r a) : NoDollar r := by
  obtain ⟨p, rfl⟩ := hs; exact fun x hx => h x (List.mem_append_right _ hx)

theorem dqRun_app (env : Env) (b : Bytes) : ∀ (a : Bytes) (s : DqSt), NoDollar a → s.mode.noEnv = true →
    (dqRun env s a).tok.isErr = false → dqRun env s (a ++ b) = (dqRun env s a).app b := by
  intro a
  induction a with
  | nil =>
    intro ⟨m, acc, nl⟩ _ _ h
    obtain ⟨e, he⟩ := dqEof_eq m acc
    rw [dqRun, he] at h; cases h
  | cons c cs ih =>
    intro ⟨m, acc, nl⟩ hnd hm h
    have ok : dqModeOk m (c :: cs) = true := by cases m <;> first | rfl | cases hm
    simp only [dqRun, List.cons_append] at h ⊢
    -- no `$`: the step does not look at what follows, and stays outside substitutions
    cases dqStep_shape env m acc c cs ok with
    | go m' acc' _ hm' eq =>
      have hX := fun X => eq nl X (absurd · hnd.head)
      simp only [hX] at h ⊢
      have hm'' : m'.noEnv = true := hm'.elim id (·.elim (absurd · hnd.head) (fun e => by rw [hm] at e; cases e))
      exact ih ⟨m', acc', _⟩ hnd.tail hm'' h
    | close v _ eq => rw [eq, eq]; rfl
    | fail e eq => rw [eq] at h; cases h

def blankStar (x : Bytes) : Bool := x.all (fun c => isBlank c || c == c_star)

def EndsNl (a : Bytes) : Prop := ∀ x, a.getLast? = some x → x = c_nl

theorem EndsNl.tail {c : Nat} {cs : Bytes} (h : EndsNl (c :: cs)) : EndsNl cs := by
  intro x hx
  cases cs with
  | nil => simp at hx
  | cons d ds => exact h x (by simpa [List.getLast?_cons_cons] using hx)

theorem EndsNl.single {c : Nat} (h : EndsNl [c]) : c = c_nl := h c (by simp)

theorem EndsNl.suffix {r a : Bytes} (h : EndsNl a) (hs : Suffix r a) : EndsNl r := by
  obtain ⟨p, rfl⟩ := hs
  induction p with
  | nil => exact h
  | cons q qs ih => exact ih (EndsNl.tail h)

theorem EndsNl.mem {c : Nat} {cs : Bytes} (h : EndsNl (c :: cs)) : c_nl ∈ c :: cs := by
  obtain ⟨x, hx⟩ := Option.isSome_iff_exists.1 (List.getLast?_isSome.2 (List.cons_ne_nil c cs))
  exact h x hx ▸ List.mem_of_getLast? hx

theorem commentRun_app (b : Bytes) : ∀ (a acc : Bytes) (nl : Nat), EndsNl a → (commentRun acc nl a).tok.isErr = false →
    commentRun acc nl (a ++ b) = (commentRun acc nl a).app b := by
  intro a
  induction a with
  | nil => intro acc nl _ h; cases h
  | cons c cs ih =>
    intro acc nl he h
    -- the newline at the end of `c :: cs` stands behind its leading blanks and stars
    have hd := List.ne_nil_of_mem (mem_dropWhile (p := (· == c_star)) (mem_dropWhile (p := isBlank) he.mem rfl) rfl)
    rw [List.cons_append, commentRun_cons, ← List.cons_append, commentEnd_append _ b hd, commentRun_cons]
    rw [commentRun_cons] at h
    revert h
    cases commentEnd (c :: cs) with
    | some r => exact fun _ => rfl
    | none => exact ih _ _ he.tail

theorem lineComment_app (marker nl : Nat) {c : Nat} {cs : Bytes} (b : Bytes) (he : EndsNl (c :: cs)) :
    lineComment marker nl (c :: cs ++ b) = (lineComment marker nl (c :: cs)).app b := by
  obtain ⟨e1, e2⟩ := span_append_left b (List.ne_nil_of_mem (mem_dropWhile (p := (· != c_nl)) he.mem rfl))
  rw [lineComment, e1, e2]; rfl

theorem lexWord_app (nl : Nat) {c : Nat} {cs : Bytes} (b : Bytes) (he : EndsNl (c :: cs)) :
    lexWord nl (c :: cs ++ b) = (lexWord nl (c :: cs)).app b := by
  obtain ⟨e1, e2⟩ := span_append_left b (List.ne_nil_of_mem (mem_dropWhile (p := isWordByte) he.mem rfl))
  rw [lexWord, e1, e2]; rfl

theorem commentRun_not_eof (a acc : Bytes) (nl : Nat) : (commentRun acc nl a).tok ≠ .eof := by
  rcases commentRun_tok a acc nl with ⟨t, h⟩ | h <;> rw [h] <;> exact Tok.noConfusion

/-- `.eof` on `a` alone means no token in `a`: on `a ++ b` the scan goes on in `b`, with the line count reached -/
def SpliceOK (env : Env) (b a : Bytes) (nl : Nat) : Prop :=
  ((lexInitial env nl a).tok = .eof → lexInitial env nl (a ++ b) = lexInitial env (lexInitial env nl a).nl b) ∧
  ((lexInitial env nl a).tok ≠ .eof → (lexInitial env nl a).tok.isErr = false →
      lexInitial env nl (a ++ b) = (lexInitial env nl a).app b ∧ Suffix (lexInitial env nl a).rest a)

/-- the first byte is skipped -/
theorem spliceOK_rec (env : Env) (b : Bytes) (c : Nat) (cs : Bytes) (nl nl' : Nat)
    (h1 : lexInitial env nl (c :: cs) = lexInitial env nl' cs)
    (h2 : lexInitial env nl (c :: (cs ++ b)) = lexInitial env nl' (cs ++ b))
    (ih : SpliceOK env b cs nl') : SpliceOK env b (c :: cs) nl := by
  unfold SpliceOK at ih ⊢
  rw [List.cons_append, h1, h2]
  exact ⟨ih.1, fun hne he => ⟨(ih.2 hne he).1, (ih.2 hne he).2.cons c⟩⟩

/-- the first byte starts a token -/
theorem spliceOK_term (env : Env) (b a : Bytes) (nl : Nat) (o : LexOut) (h1 : lexInitial env nl a = o) (hne : o.tok ≠ .eof)
    (h2 : o.tok.isErr = false → lexInitial env nl (a ++ b) = o.app b) : SpliceOK env b a nl :=
  ⟨fun h => absurd (h1 ▸ h) hne, fun _ he => ⟨h1 ▸ h2 (h1 ▸ he), (lexInitial_reads env a).rest_eq nl⟩⟩

theorem lexInitial_app (env : Env) (b : Bytes) : ∀ (a : Bytes) (nl : Nat), NoDollar a → EndsNl a → SpliceOK env b a nl := by
  intro a
  induction a with
  | nil => intro nl _ _; exact ⟨fun _ => rfl, fun h => absurd rfl h⟩
  | cons c cs ih =>
    intro nl hnd he
    have hX : c = c_slash ∨ c = c_plus → (cs ++ b).head? = cs.head? := fun hc => by
      cases cs with
      | nil => exact absurd he.single (by rcases hc with rfl | rfl <;> decide)
      | cons d ds => rfl
    cases lexInitial_head env c cs with
    | skip eq => exact spliceOK_rec env b c cs nl _ (eq nl cs fun _ => rfl) (eq nl _ hX) (ih _ hnd.tail he.tail)
    | punct t ht _ eq => exact spliceOK_term env b _ nl _ (eq nl cs) ht fun _ => eq nl _
    | word _ eq =>
      exact spliceOK_term env b _ nl _ (eq nl cs fun _ => rfl) Tok.noConfusion fun _ => (eq nl _ hX).trans (lexWord_app nl b he)
    | hash hc =>
      subst hc; exact spliceOK_term env b _ nl (lineComment c_hash nl _) rfl Tok.noConfusion fun _ => lineComment_app c_hash nl b he
    | slash2 ds hc hcs =>
      subst hc hcs
      exact spliceOK_term env b _ nl (lineComment c_slash nl _) rfl Tok.noConfusion fun _ => lineComment_app c_slash nl b he
    | block ds hc hcs =>
      subst hc hcs
      exact spliceOK_term env b _ nl _ rfl (commentRun_not_eof ds [] nl) fun herr => commentRun_app b ds [] nl he.tail.tail herr
    | pluseq ds hc hcs => subst hc hcs; exact spliceOK_term env b _ nl ⟨.pluseq, nl, ds⟩ rfl Tok.noConfusion fun _ => rfl
    | dq hc =>
      subst hc
      exact spliceOK_term env b _ nl _ rfl ((dqRun_reads env cs .plain [] rfl).2 nl) (dqRun_app env b cs ⟨.plain, [], nl⟩ hnd.tail rfl)
    | sq hc => subst hc; exact spliceOK_term env b _ nl _ rfl ((sqRun_reads cs .plain []).2 nl) (sqRun_app b cs .plain [] nl)
    | dollar hc => exact absurd hc hnd.head

theorem skip_lex (env : Env) (ws o : Bytes) (hnd : NoDollar ws) (he : EndsNl ws) (heof : (lexInitial env 0 ws).tok = .eof) :
    (lexInitial env 0 (ws ++ o)).tok = (lexInitial env 0 o).tok ∧ (lexInitial env 0 (ws ++ o)).rest = (lexInitial env 0 o).rest := by
  rw [(lexInitial_app env o ws 0 hnd he).1 heof]
  exact lexInitial_tok_rest env o (lexInitial env 0 ws).nl

end Confuse
