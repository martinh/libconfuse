import Confuse.Lemmas.Parser
/-!
# A step does not look at the logs

`m.onto b` is the machine `m` continued on top of what `b` has logged: `b`'s source stack, `m`'s invocations and
diagnostics after `b`'s, the include request and high-water mark of whichever has one.  `pstep_onto`: stepping
`m.onto b` is stepping `m` (with the oracle counting from `b.k`) and putting the result onto `b`.  Every machine is
its `fresh` part onto itself (`onto_fresh`), so a step is a function of the frame stack and the invocation count
alone, and it changes the rest of the machine only by adding to it: that it neither reads nor writes the source
stack (`pstep_srcs`) and that the logs only grow (`pstep_grows`) are read off `onto`.
-/
namespace Confuse

def Oracle.after (orc : Oracle) (c : Nat) : Oracle := fun k => orc (k + c)

def PM.onto (m b : PM) : PM :=
  { m with srcs := b.srcs, trace := m.trace ++ b.trace, diags := m.diags ++ b.diags,
           pendingInclude := (match m.pendingInclude with | some a => some a | none => b.pendingInclude),
           maxDepth := max b.maxDepth m.maxDepth }

def PM.fresh (m : PM) : PM := { frames := m.frames, srcs := [], status := m.status, maxDepth := 0 }

theorem onto_fresh (m : PM) : m.fresh.onto m = m := by
  cases m; simp [PM.onto, PM.fresh]

theorem onto_k (m b : PM) : (m.onto b).k = m.k + b.k := by simp [PM.onto, PM.k]
theorem onto_addDiags (m b : PM) (f : Frame) (cs : List DiagCls) : (m.onto b).addDiags f cs = (m.addDiags f cs).onto b := by
  simp [PM.onto, PM.addDiags]
theorem onto_addCalls (m b : PM) (cs : List CbCall) : (m.onto b).addCalls cs = (m.addCalls cs).onto b := by
  simp [PM.onto, PM.addCalls]
theorem onto_reject (m b : PM) (f : Frame) (rest : List Frame) : (m.onto b).reject f rest = (m.reject f rest).onto b := rfl
theorem onto_rejectWith (m b : PM) (f : Frame) (rest : List Frame) (c : DiagCls) :
    (m.onto b).rejectWith f rest c = (m.rejectWith f rest c).onto b := by
  simp only [PM.rejectWith, onto_addDiags, onto_reject]
theorem onto_frames (m b : PM) (fs : List Frame) : ({ m.onto b with frames := fs } : PM) = ({ m with frames := fs } : PM).onto b := rfl
theorem onto_push (m b : PM) (fs : List Frame) (n : Nat) :
    ({ m.onto b with frames := fs, maxDepth := max (m.onto b).maxDepth n } : PM) =
      ({ m with frames := fs, maxDepth := max m.maxDepth n } : PM).onto b := by
  simp [PM.onto, Nat.max_assoc]

theorem after_apply (orc : Oracle) (c k : Nat) : orc.after c k = orc (k + c) := rfl
theorem setopt_after (orc : Oracle) (c k : Nat) (ci : CfgInfo) (o : Opt) (v : Option Bytes) :
    setopt (orc.after c) k ci o v = setopt orc (k + c) ci o v := rfl
theorem validVerdict_after (orc : Oracle) (c k : Nat) (f : Frame) : validVerdict (orc.after c) k f = validVerdict orc (k + c) f := rfl

theorem vetoed_after (orc : Oracle) (c : Nat) (m : PM) (f : Frame) : vetoed (orc.after c) m f = vetoed orc m f := rfl
theorem vetoed_onto (orc : Oracle) (m b : PM) (f : Frame) : vetoed orc (m.onto b) f = (vetoed orc m f).onto b := by
  unfold vetoed
  repeat' split
  all_goals simp only [onto_addDiags, onto_addCalls]

/-- pushes `onto b` outwards through the primitives and states both sides in terms of `orc` -/
macro "onto_simp" : tactic =>
  `(tactic| simp only [onto_k, onto_addDiags, onto_addCalls, onto_reject, onto_rejectWith, onto_frames, onto_push,
      after_apply, setopt_after, handleDeprecated_spec, vetoed_onto, vetoed_after])

/-- the shape `cfg_setopt` / `}` end in: ask the validation callback, reject on a veto, go on otherwise -/
theorem validThen_onto (orc : Oracle) (m b : PM) (g g' : Frame) (rs fs : List Frame) :
    (match runValid orc (m.onto b) g with
      | none => ((vetoed orc m g).reject g' rs).onto b
      | some m1 => { m1 with frames := fs }) =
    (match runValid (orc.after b.k) m g with
      | none => (vetoed orc m g).reject g' rs
      | some m1 => { m1 with frames := fs }).onto b := by
  simp only [runValid_spec, onto_k, validVerdict_after]
  cases validVerdict orc (m.k + b.k) g with
  | none => rfl
  | some cs => simp only [Option.map_some, onto_addCalls, onto_frames]

theorem storeValue_onto (orc : Oracle) (m b : PM) (f : Frame) (rest : List Frame) (v : Bytes) (next : PState) :
    storeValue orc (m.onto b) f rest v next = (storeValue (orc.after b.k) m f rest v next).onto b := by
  unfold storeValue
  onto_simp
  split
  · rfl
  split
  · rfl
  split
  · rfl
  exact validThen_onto orc _ b _ _ rest _

theorem callFunction_onto (orc : Oracle) (m b : PM) (f : Frame) (rest : List Frame) :
    callFunction orc (m.onto b) f rest = (callFunction (orc.after b.k) m f rest).onto b := by
  unfold callFunction
  onto_simp
  repeat' (split <;> try simp only [])
  all_goals first | rfl | simp only [*, ↓reduceIte]

theorem stepFn_onto (s : PState) (orc : Oracle) (m b : PM) (f : Frame) (rest : List Frame) (tok : Tok) :
    stepFn s orc (m.onto b) f rest tok = (stepFn s (orc.after b.k) m f rest tok).onto b := by
  -- `onto_simp` moves `onto b` to the outside of every leaf; the two sides are then the same tree of cases with equal
  -- leaves, and `repeat' split` only walks it.  The states that end in a validation go through `validThen_onto`.
  cases s with
  | s0 =>
    simp only [stepFn, step_s0]
    onto_simp
    cases tok with
    | rbrace =>
      cases rest with
      | nil => rfl
      | cons p rs =>
        simp only []
        split
        · rfl
        · exact validThen_onto orc _ b _ _ rs _
    | _ =>
      simp only []
      repeat' (split <;> try simp only [])
  | s4 =>
    simp only [stepFn, step_s4]
    cases tok with
    | rbrace => onto_simp; exact validThen_onto orc m b f f rest _
    | _ => onto_simp
  | s2 =>
    simp only [stepFn, step_s2, storeValue_onto]
    onto_simp
    repeat' (split <;> try simp only [])
  | s5 =>
    simp only [stepFn, step_s5]
    onto_simp
    repeat' (split <;> try simp only [])
  | _ =>
    simp only [stepFn, step_s1, step_s3, step_s6, step_s7, step_s8, step_s9, step_s10, step_s11,
      step_s12, step_s13, step_s14, storeValue_onto, callFunction_onto, onto_rejectWith, onto_frames]
    repeat' (split <;> try simp only [])
    all_goals rfl

theorem stepAt_onto (orc : Oracle) (m b : PM) (f : Frame) (rest : List Frame) (tok : Tok) :
    stepAt orc (m.onto b) f rest tok = (stepAt (orc.after b.k) m f rest tok).onto b := by
  cases tok with
  | err e => exact onto_rejectWith ..
  | eof => simp only [stepAt]; onto_simp; split <;> rfl
  | _ => simp only [stepAt, stepFn_onto]; split <;> rfl

theorem pstep_onto (orc : Oracle) (m b : PM) (tok : Tok) (nl : Nat) :
    pstep orc (m.onto b) tok nl = (pstep (orc.after b.k) m tok nl).onto b := by
  refine pstep_cases (Q := fun x => pstep orc (m.onto b) tok nl = x.onto b) _ m tok nl (fun h => pstep_idle _ _ _ _ h) ?_
  intro f rest hrun hfr
  rw [pstep_top orc (m.onto b) f rest tok nl hrun hfr]
  exact stepAt_onto orc { m with frames := f.addLine nl :: rest } b ..

theorem pstep_fresh (orc : Oracle) (m : PM) (tok : Tok) (nl : Nat) :
    pstep orc m tok nl = (pstep (orc.after m.k) m.fresh tok nl).onto m := by
  rw [← pstep_onto, onto_fresh]

end Confuse
