import Confuse.Lemmas.Loop
import Confuse.Lemmas.Srcs
import Confuse.Lemmas.Erase
import Confuse.Lemmas.Splice
/-!
# Two runs of the parse loop, step by step (for C13)

One run has the text of an included file as a source of its own, the other has it written in place.  `Core`: what the
two machines must agree on (everything but the source stack, up to positions); `JointR`, `SameR`: how their source
stacks are related in the two phases; `jointStep`, `sameStep`: one iteration (`loopNext`) keeps the relation, or the
nested run hits the include depth limit (`DepthHit`).  `Props/C13L.lean` runs the induction on the fuel.
-/
namespace Confuse

def Core (M M' : PM) : Prop := erasePM (setSrcs M []) = erasePM (setSrcs M' [])

def rests (m : PM) : List Bytes := m.srcs.map (·.rest)

theorem Core.status {M M' : PM} (h : Core M M') : M.status = M'.status := (congrArg PM.status h :)
theorem Core.pending {M M' : PM} (h : Core M M') : M.pendingInclude = M'.pendingInclude := (congrArg PM.pendingInclude h :)
theorem Core.frames {M M' : PM} (h : Core M M') : M.frames.map eraseFrame = M'.frames.map eraseFrame := (congrArg PM.frames h :)
theorem Core.refl (M : PM) : Core M M := rfl
theorem Core.setSrcs {M M' : PM} (h : Core M M') (S S' : List Src) : Core (setSrcs M S) (setSrcs M' S') := h

theorem Core.top {M M' : PM} (h : Core M M') {f : Frame} {rest : List Frame} (hF : M.frames = f :: rest) :
    ∃ f' rest', M'.frames = f' :: rest' ∧ eraseFrame f = eraseFrame f' ∧ rest.map eraseFrame = rest'.map eraseFrame := by
  obtain ⟨f', rest', hF', hf, hr⟩ := List.map_eq_cons_iff.1 (hF ▸ h.frames).symm
  exact ⟨f', rest', hF', hf.symm, hr.symm⟩

theorem core_pstep (orc : Oracle) {M M' : PM} (h : Core M M') (tok : Tok) (nl nl' : Nat) :
    Core (pstep orc M tok nl) (pstep orc M' tok nl') := by
  unfold Core
  rw [← pstep_srcs, ← pstep_srcs]
  exact pstep_erase_congr orc _ _ tok nl nl' h

theorem core_outOfFuel {M M' : PM} (h : Core M M') : Core { M with status := .outOfFuel } { M' with status := .outOfFuel } :=
  (congrArg (fun x : PM => ({ x with status := .outOfFuel } : PM)) h :)

theorem core_clearPending {M M' : PM} (h : Core M M') : Core { M with pendingInclude := none } { M' with pendingInclude := none } :=
  (congrArg (fun x : PM => ({ x with pendingInclude := none } : PM)) h :)

theorem core_rejectWith {M M' : PM} (h : Core M M') (f f' : Frame) (rest rest' : List Frame) (c : DiagCls)
    (hf : eraseFrame f = eraseFrame f') (hr : rest.map eraseFrame = rest'.map eraseFrame) :
    Core (M.rejectWith f rest c) (M'.rejectWith f' rest' c) := by
  unfold Core at h ⊢
  rw [← setSrcs_rejectWith, ← setSrcs_rejectWith, rejectWith_erase, rejectWith_erase, h, hf, hr]

theorem core_setFrames {M M' : PM} (h : Core M M') (fs fs' : List Frame) (hf : fs.map eraseFrame = fs'.map eraseFrame)
    (S S' : List Src) : Core { M with frames := fs, srcs := S } { M' with frames := fs', srcs := S' } :=
  ((congrArg (fun x : PM => ({ x with frames := fs.map eraseFrame } : PM)) h).trans
    (congrArg (fun l => ({ erasePM (setSrcs M' []) with frames := l } : PM)) hf) :)

theorem doInclude_core (pe : PEnv) {M M' : PM} (h : Core M M') (fn : Bytes) {f : Frame} {rest : List Frame} (hF : M.frames = f :: rest)
    (hd : M.srcs.length - 1 ≥ pe.maxInc ↔ M'.srcs.length - 1 ≥ pe.maxInc) :
    Core (doInclude pe M fn) (doInclude pe M' fn) ∧
      ∃ pre, rests (doInclude pe M fn) = pre ++ rests M ∧ rests (doInclude pe M' fn) = pre ++ rests M' := by
  have hc := core_clearPending h
  obtain ⟨f', rest', hF', hf, hr⟩ := h.top hF
  rw [doInclude_eq pe M fn hF, doInclude_eq pe M' fn hF', includeTarget_congr pe fn hd]
  cases includeTarget pe M'.srcs.length fn with
  | error c => exact ⟨core_rejectWith hc _ _ _ _ _ hf hr, [], rfl, rfl⟩
  | ok p =>
    refine ⟨core_setFrames hc _ _ ?_ _ _, [p.2], rfl, rfl⟩
    simp only [List.map_cons, eraseFrame_setPos, hf, hr]

def DepthHit (F : PM) : Prop := F.status = .rejected ∧ ∃ d ∈ F.diags, d.cls = .includeDepth

theorem doInclude_depthHit (pe : PEnv) (M : PM) (fn : Bytes) (f : Frame) (rest : List Frame) (hF : M.frames = f :: rest)
    (hdep : M.srcs.length - 1 ≥ pe.maxInc) : DepthHit (doInclude pe M fn) := by
  rw [doInclude_eq pe M fn hF, includeTarget, if_pos hdep]
  exact ⟨rfl, _, by rw [rejectWith_diags]; exact List.mem_cons_self, rfl⟩

theorem live_doInclude (pe : PEnv) (M : PM) (fn : Bytes) (h : Live M) (hrun : M.status = .running) : Live (doInclude pe M fn) := by
  obtain ⟨f, inner, hF⟩ := h hrun
  rw [doInclude_eq pe M fn hF]
  cases includeTarget pe M.srcs.length fn with
  | error c => intro hst; simp [PM.rejectWith] at hst
  | ok p => exact fun _ => ⟨_, _, rfl⟩

theorem live_afterTok (pe : PEnv) (P : PM) (h : Live P) : Live (afterTok pe P) := by
  by_cases hid : P.pendingInclude = none ∨ P.status ≠ .running
  · rw [afterTok_idle pe P hid]; exact h
  · obtain ⟨fn, hp⟩ := Option.ne_none_iff_exists'.1 fun e => hid (.inl e)
    have hrun : P.status = .running := Decidable.byContradiction fun e => hid (.inr e)
    rw [afterTok_include pe P fn hp hrun]; exact live_doInclude pe P fn h hrun

theorem tokStep (orc : Oracle) (pe : PEnv) {M M' : PM} (hc : Core M M') (hl : Live M) (S S' : List Src) (tok : Tok) (nl nl' : Nat)
    (hlen : S'.length ≤ S.length) :
    DepthHit (afterTok pe (pstep orc (setSrcs M S) tok nl)) ∨
      (Core (afterTok pe (pstep orc (setSrcs M S) tok nl)) (afterTok pe (pstep orc (setSrcs M' S') tok nl')) ∧
       ∃ pre, rests (afterTok pe (pstep orc (setSrcs M S) tok nl)) = pre ++ S.map (·.rest) ∧
         rests (afterTok pe (pstep orc (setSrcs M' S') tok nl')) = pre ++ S'.map (·.rest)) := by
  have hP : Core (pstep orc (setSrcs M S) tok nl) (pstep orc (setSrcs M' S') tok nl') := core_pstep orc (hc.setSrcs S S') tok nl nl'
  have hLP : Live (pstep orc (setSrcs M S) tok nl) := pstep_live orc (setSrcs M S) tok nl hl
  have hs1 : (pstep orc (setSrcs M S) tok nl).srcs = S := by rw [pstep_srcs_eq]; rfl
  have hs2 : (pstep orc (setSrcs M' S') tok nl').srcs = S' := by rw [pstep_srcs_eq]; rfl
  generalize pstep orc (setSrcs M S) tok nl = P at hP hLP hs1 ⊢
  generalize pstep orc (setSrcs M' S') tok nl' = P' at hP hs2 ⊢
  have hpend := hP.pending
  have hst := hP.status
  by_cases hid : P.pendingInclude = none ∨ P.status ≠ .running
  · rw [afterTok_idle pe P hid, afterTok_idle pe P' (hpend ▸ hst ▸ hid)]
    exact Or.inr ⟨hP, [], (congrArg (List.map Src.rest) hs1 :), (congrArg (List.map Src.rest) hs2 :)⟩
  · obtain ⟨fn, hp⟩ := Option.ne_none_iff_exists'.1 fun e => hid (.inl e)
    have hrun : P.status = .running := Decidable.byContradiction fun e => hid (.inr e)
    rw [afterTok_include pe P fn hp hrun, afterTok_include pe P' fn (hpend ▸ hp) (hst ▸ hrun)]
    obtain ⟨f, inner, hF⟩ := hLP hrun
    by_cases hdep : P.srcs.length - 1 ≥ pe.maxInc
    · exact Or.inl (doInclude_depthHit pe P fn f inner hF hdep)
    · have hdep' : ¬ (P'.srcs.length - 1 ≥ pe.maxInc) := by rw [hs1] at hdep; rw [hs2]; omega
      have := doInclude_core pe hP fn hF ⟨fun x => absurd x hdep, fun x => absurd x hdep'⟩
      obtain ⟨pre, e1, e2⟩ := this.2
      exact Or.inr ⟨this.1, pre, by rw [e1, rests, hs1], by rw [e2, rests, hs2]⟩

theorem popNext (orc : Oracle) (pe : PEnv) {M M' : PM} (hc : Core M M') (hl : Live M) (hrun : M.status = .running)
    {x x' : Bytes} {xs xs' : List Bytes} (h : rests M = x :: xs) (h' : rests M' = x' :: xs')
    (he : (lexInitial pe.env 0 x).tok = .eof) (he' : (lexInitial pe.env 0 x').tok = .eof) (hne : xs ≠ []) (hne' : xs' ≠ []) :
    ∃ N N', loopNext orc pe M = some N ∧ loopNext orc pe M' = some N' ∧ Core N N' ∧ Live N ∧ rests N = xs ∧ rests N' = xs' := by
  obtain ⟨src, srcs, hs, rfl, rfl⟩ := List.map_eq_cons_iff.1 h
  obtain ⟨src', srcs', hs', rfl, rfl⟩ := List.map_eq_cons_iff.1 h'
  obtain ⟨f, rest, hF⟩ := hl hrun
  obtain ⟨f', rest', hF', hf, hr⟩ := hc.top hF
  refine ⟨_, _, loopNext_pop orc pe M src srcs f rest hs he (mt List.map_eq_nil_iff.2 hne) hF,
    loopNext_pop orc pe M' src' srcs' f' rest' hs' he' (mt List.map_eq_nil_iff.2 hne') hF',
    core_setFrames hc _ _ ?_ _ _, fun _ => ⟨_, _, rfl⟩, rfl, rfl⟩
  simp only [List.map_cons, popFrame, eraseFrame_setPos, hf, hr]

theorem tokNext (orc : Oracle) (pe : PEnv) {M M' : PM} (hc : Core M M') (hl : Live M)
    {x x' : Bytes} {xs xs' : List Bytes} (h : rests M = x :: xs) (h' : rests M' = x' :: xs')
    (hnp : ¬ ((lexInitial pe.env 0 x).tok = .eof ∧ xs ≠ [])) (hnp' : ¬ ((lexInitial pe.env 0 x').tok = .eof ∧ xs' ≠ []))
    (htok : (lexInitial pe.env 0 x').tok = (lexInitial pe.env 0 x).tok) (hlen : xs'.length ≤ xs.length) :
    ∃ N N', loopNext orc pe M = some N ∧ loopNext orc pe M' = some N' ∧
      (DepthHit N ∨ (Core N N' ∧ Live N ∧ ∃ pre,
        rests N = pre ++ (lexInitial pe.env 0 x).rest :: xs ∧ rests N' = pre ++ (lexInitial pe.env 0 x').rest :: xs')) := by
  obtain ⟨src, srcs, hs, rfl, rfl⟩ := List.map_eq_cons_iff.1 h
  obtain ⟨src', srcs', hs', rfl, rfl⟩ := List.map_eq_cons_iff.1 h'
  refine ⟨_, _, loopNext_tok orc pe M src srcs hs fun y => hnp ⟨y.1, mt List.map_eq_nil_iff.1 y.2⟩,
    loopNext_tok orc pe M' src' srcs' hs' fun y => hnp' ⟨y.1, mt List.map_eq_nil_iff.1 y.2⟩, ?_⟩
  rw [htok]
  exact (tokStep orc pe hc hl (_ :: srcs) (_ :: srcs') _ _ _ (by simpa using hlen)).imp_right fun ⟨hcN, hpre⟩ =>
    ⟨hcN, live_afterTok pe _ (pstep_live orc _ _ _ hl), hpre⟩

def Skippable (env : Env) (ws : Bytes) : Prop := NoDollar ws ∧ EndsNl ws ∧ (lexInitial env 0 ws).tok = .eof

theorem skippable_nil (env : Env) : Skippable env [] :=
  ⟨fun _ h => by simp at h, fun _ h => by simp at h, by simp [lexInitial]⟩

/-- the second phase: the included text is used up; the flat run still has skippable text `ws` of it in front of the
includer's `o`, the nested run has popped it -/
def SameR (env : Env) (M M' : PM) : Prop :=
  Core M M' ∧ Live M ∧ ∃ tr ws o mr, rests M = tr ++ o :: mr ∧ rests M' = tr ++ (ws ++ o) :: mr ∧ Skippable env ws

/-- the first phase: the nested run has the rest `a` of the included text as a source of its own above the includer's
`o`, the flat run has `a ++ o` in one source; `tr`: sources above (includes inside `a`), `mr`: below -/
def JointR (env : Env) (M M' : PM) : Prop :=
  Core M M' ∧ Live M ∧ ∃ tr a o mr, rests M = tr ++ a :: o :: mr ∧ rests M' = tr ++ (a ++ o) :: mr ∧
    NoDollar a ∧ EndsNl a ∧ ∃ ta, Scan env a (ta ++ [.eof])

/-- both stacks have the same source `t` on top, above the place where they differ (`x` in one run, `x'` in the other) -/
theorem aboveStep (orc : Oracle) (pe : PEnv) {M M' : PM} (hc : Core M M') (hl : Live M) (hrun : M.status = .running)
    (t : Bytes) (ts x x' : List Bytes) (h1 : rests M = t :: (ts ++ x)) (h2 : rests M' = t :: (ts ++ x'))
    (hx : x ≠ []) (hx' : x' ≠ []) (hlen : x'.length ≤ x.length) :
    ∃ N N', loopNext orc pe M = some N ∧ loopNext orc pe M' = some N' ∧
      (DepthHit N ∨ (Core N N' ∧ Live N ∧ ∃ tr, rests N = tr ++ x ∧ rests N' = tr ++ x')) := by
  by_cases he : (lexInitial pe.env 0 t).tok = .eof
  · obtain ⟨N, N', e, e', hcN, hlN, r, r'⟩ := popNext orc pe hc hl hrun h1 h2 he he (by simp [hx]) (by simp [hx'])
    exact ⟨N, N', e, e', Or.inr ⟨hcN, hlN, ts, r, r'⟩⟩
  · obtain ⟨N, N', e, e', hN⟩ := tokNext orc pe hc hl h1 h2 (fun y => he y.1) (fun y => he y.1) rfl (by simpa using hlen)
    exact ⟨N, N', e, e', hN.imp_right fun ⟨hcN, hlN, pre, e1, e2⟩ =>
      ⟨hcN, hlN, pre ++ (lexInitial pe.env 0 t).rest :: ts, by simp [e1], by simp [e2]⟩⟩

theorem sameStep (orc : Oracle) (pe : PEnv) {M M' : PM} (h : SameR pe.env M M') (hrun : M.status = .running) :
    ∃ N N', loopNext orc pe M = some N ∧ loopNext orc pe M' = some N' ∧ (DepthHit N ∨ SameR pe.env N N') := by
  obtain ⟨hc, hl, tr, ws, o, mr, h1, h2, hsk⟩ := h
  cases tr with
  | nil =>
    have hlx := skip_lex pe.env ws o hsk.1 hsk.2.1 hsk.2.2
    by_cases hpop : (lexInitial pe.env 0 o).tok = .eof ∧ mr ≠ []
    · obtain ⟨N, N', e, e', hcN, hlN, r, r'⟩ := popNext orc pe hc hl hrun h1 h2 hpop.1 (hlx.1.trans hpop.1) hpop.2 hpop.2
      obtain ⟨o2, mr2, rfl⟩ := List.exists_cons_of_ne_nil hpop.2
      exact ⟨N, N', e, e', Or.inr ⟨hcN, hlN, [], [], o2, mr2, r, r', skippable_nil _⟩⟩
    · obtain ⟨N, N', e, e', hN⟩ := tokNext orc pe hc hl h1 h2 hpop (fun y => hpop ⟨hlx.1.symm.trans y.1, y.2⟩) hlx.1 (Nat.le_refl _)
      exact ⟨N, N', e, e', hN.imp_right fun ⟨hcN, hlN, pre, e1, e2⟩ =>
        ⟨hcN, hlN, pre, [], (lexInitial pe.env 0 o).rest, mr, e1, by rw [e2, hlx.2]; rfl, skippable_nil _⟩⟩
  | cons t ts =>
    obtain ⟨N, N', e, e', hN⟩ := aboveStep orc pe hc hl hrun t ts (o :: mr) ((ws ++ o) :: mr) h1 h2
      (List.cons_ne_nil _ _) (List.cons_ne_nil _ _) (Nat.le_refl _)
    refine ⟨N, N', e, e', hN.imp_right fun ⟨hcN, hlN, tr, r1, r2⟩ => ⟨hcN, hlN, tr, ws, o, mr, r1, r2, hsk⟩⟩

theorem jointStep (orc : Oracle) (pe : PEnv) {M M' : PM} (h : JointR pe.env M M') (hrun : M.status = .running) :
    ∃ N, loopNext orc pe M = some N ∧
      (DepthHit N ∨ (∃ N', loopNext orc pe M' = some N' ∧ JointR pe.env N N') ∨ SameR pe.env N M') := by
  obtain ⟨hc, hl, tr, a, o, mr, h1, h2, hnd, hen, ta, hscan⟩ := h
  cases tr with
  | nil =>
    rcases scan_inv pe.env a ta hscan with ⟨he, _⟩ | ⟨hne', herr, ta', _, hs2⟩
    · -- the included text is exhausted: the nested run pops it, the flat run stays where it is
      obtain ⟨src, srcs, hs, rfl, hsm⟩ := List.map_eq_cons_iff.1 h1
      obtain ⟨f, rest, hF⟩ := hl hrun
      refine ⟨_, loopNext_pop orc pe M src srcs f rest hs he (fun e => by rw [e] at hsm; cases hsm) hF,
        Or.inr (Or.inr ⟨?_, fun _ => ⟨_, _, rfl⟩, [], src.rest, o, mr, hsm, h2, hnd, hen, he⟩)⟩
      exact core_setFrames hc (popFrame f src :: rest) M'.frames
        (by rw [← hc.frames, hF]; simp only [List.map_cons, popFrame, eraseFrame_setPos]) srcs M'.srcs
    · have happ := (lexInitial_app pe.env o a 0 hnd hen).2 hne' herr
      have e1 : (lexInitial pe.env 0 (a ++ o)).tok = (lexInitial pe.env 0 a).tok := by rw [happ.1]; rfl
      have e2 : (lexInitial pe.env 0 (a ++ o)).rest = (lexInitial pe.env 0 a).rest ++ o := by rw [happ.1]; rfl
      obtain ⟨N, N', e, e', hN⟩ := tokNext orc pe hc hl h1 h2 (fun y => hne' y.1) (fun y => hne' (e1 ▸ y.1)) e1 (Nat.le_succ _)
      exact ⟨N, e, hN.imp_right fun ⟨hcN, hlN, pre, r1, r2⟩ => Or.inl ⟨N', e', hcN, hlN,
        pre, (lexInitial pe.env 0 a).rest, o, mr, r1, by rw [r2, e2], hnd.suffix happ.2, hen.suffix happ.2, ta', hs2⟩⟩
  | cons t ts =>
    obtain ⟨N, N', e, e', hN⟩ := aboveStep orc pe hc hl hrun t ts (a :: o :: mr) ((a ++ o) :: mr) h1 h2
      (List.cons_ne_nil _ _) (List.cons_ne_nil _ _) (by simp)
    refine ⟨N, e, hN.imp_right fun ⟨hcN, hlN, tr, r1, r2⟩ =>
      Or.inl ⟨N', e', hcN, hlN, tr, a, o, mr, r1, r2, hnd, hen, ta, hscan⟩⟩

end Confuse
