import Confuse.Lemmas.Store
import Confuse.Lemmas.Compose
/-!
# The compositional evaluation is total from an item boundary

`Next`: the table of where one token takes the control state of a one-frame machine, and `pstep_next`: a step stops
the machine or follows the table.  Then: for every item list, from an item boundary, every guard of `evalItems` holds
and the result is again at an item boundary; each item walks the table (`One.next`), a row with a constructor token
and a known state evaluating by reduction.
-/
namespace Confuse

def One (P : Frame → Prop) (m : PM) : Prop := m.status ≠ .running ∨ (m.status = .running ∧ ∃ f, m.frames = [f] ∧ P f)

theorem One.mono {P Q : Frame → Prop} {m : PM} (h : One P m) (hpq : ∀ f, P f → Q f) : One Q m := by
  rcases h with h | ⟨hr, f, hf, hp⟩
  · exact Or.inl h
  · exact Or.inr ⟨hr, f, hf, hpq f hp⟩

theorem One.live {P : Frame → Prop} {m : PM} (h : One P m) : Live m := by
  intro hrun
  rcases h with h | ⟨_, f, hf, _⟩
  · exact absurd hrun h
  · exact ⟨f, [], hf⟩

theorem One.stopped {Q : Frame → Prop} {m : PM} (h : m.status ≠ .running) : One Q m := Or.inl h

theorem One.run {Q : Frame → Prop} {m : PM} (f : Frame) (hr : m.status = .running) (hf : m.frames = [f]) (hq : Q f) : One Q m :=
  Or.inr ⟨hr, f, hf, hq⟩

theorem one_reject {Q : Frame → Prop} (m : PM) (f : Frame) (rest : List Frame) : One Q (m.reject f rest) := Or.inl (by simp)

/-- the machine's own "is the current option a list" test of state 2 -/
def Frame.isList (f : Frame) : Bool := ((f.opt.bind f.cfg.getOpt).map (fun o => o.flags.list)).getD false

def headState (f : Frame) : Prop :=
  f.state = .s1 ∨ f.state = .s5 ∨ f.state = .s6 ∨ f.state = .s7 ∨ f.state = .s10

/-- where a one-frame machine can go: what token `tok` makes of the control state of frame `f`; `False` = it stops.
(State 5 on `{` pushes a frame and is not in the table.) -/
def Next (s : PState) (f : Frame) (tok : Tok) (f' : Frame) : Prop :=
  match s with
  | .s0 => (match tok with | .str _ => headState f' | .comment _ => f'.state = .s0 | _ => False)
  | .s1 =>
    (match tok with
     | .eq | .pluseq => (f'.state = .s3 ∧ f'.isList = true) ∨ (f'.state = .s2 ∧ f'.isList = false)
     | _ => False)
  | .s2 =>
    (match tok with
     | .str _ => if f.isList then f'.state = .s4 ∧ f'.isList = true else f'.state = .s0
     | .rbrace => f'.state = .s0
     | _ => False)
  | .s3 => (match tok with | .str _ => f'.state = .s0 | .lbrace => f'.state = .s2 ∧ f'.isList = f.isList | _ => False)
  | .s4 => (match tok with | .comma => f'.state = .s2 ∧ f'.isList = f.isList | .rbrace => f'.state = .s0 | _ => False)
  | .s5 => False
  | .s6 => (match tok with | .str _ => f'.state = .s5 | _ => False)
  | .s7 => (match tok with | .lparen => f'.state = .s8 | _ => False)
  | .s8 => (match tok with | .str _ => f'.state = .s9 | .rparen => f'.state = .s0 | _ => False)
  | .s9 => (match tok with | .comma => f'.state = .s8 | .rparen => f'.state = .s0 | _ => False)
  | .s10 =>
    (match tok with
     | .eq | .pluseq => f'.state = .s14
     | .lparen => f'.state = .s13 ∧ f'.ignore = .rparen
     | .lbrace => f'.state = .s12 ∧ f'.depth = 1
     | .str _ => f'.state = .s11
     | _ => False)
  | .s11 => (match tok with | .lbrace => f'.state = .s12 ∧ f'.depth = 1 | _ => False)
  | .s12 => (match tok with | .rbrace => if f.depth ≤ 1 then f'.state = .s0 else f'.state = .s12 | _ => f'.state = .s12)
  | .s13 =>
    if (match tok, f.ignore with | .rparen, .rparen => true | .rbrace, .rbrace => true | _, _ => false) then f'.state = .s0
    else f'.state = .s13 ∧ f'.ignore = f.ignore
  | .s14 => (match tok with | .str _ => f'.state = .s0 | .lbrace => f'.state = .s13 ∧ f'.ignore = .rbrace | _ => False)

theorem isList_of (f : Frame) (r : OptRef) (o : Opt) (hopt : f.opt = some r) (hget : f.cfg.getOpt r = some o) :
    f.isList = o.flags.list := by
  simp [Frame.isList, hopt, hget]

theorem isList_setFlags (f : Frame) (r : OptRef) (o : Opt) (fl : Flags) (st : PState) (nv : Nat)
    (hopt : f.opt = some r) (hget : f.cfg.getOpt r = some o) :
    Frame.isList { f with cfg := f.cfg.setOpt r (o.setFlags fl), state := st, numValues := nv } = fl.list := by
  rw [isList_of { f with cfg := f.cfg.setOpt r (o.setFlags fl), state := st, numValues := nv } r _ hopt (getOpt_setOpt f.cfg r o _ hget),
    Opt.flags_setFlags]

theorem storeValue_one (orc : Oracle) (m : PM) (f : Frame) (v : Bytes) (next : PState) (hrun : m.status = .running) :
    One (fun f' => f'.state = next ∧ f'.isList = f.isList) (storeValue orc m f [] v next) := by
  fun_cases storeValue orc m f [] v next
  case case5 r hopt o hget out f1 m1 _ _ m2 hv _ _ =>
    have h1 := (inheritComment_opt f1).trans hopt
    obtain ⟨o', h2, -, h3⟩ := inheritComment_getOpt f1 r out.opt hopt (getOpt_setOpt f.cfg r o out.opt hget)
    refine One.run _ ((runValid_some orc _ _ _ hv).1.trans hrun) rfl ⟨rfl, ?_⟩
    rw [isList_of f r o hopt hget, ← setopt_flags_list orc m.k f.cfg.info o (some v), ← h3]
    exact isList_of _ r o' h1 h2
  all_goals exact one_reject _ _ _

/-- closes `One (Next s f tok) x` for an `x` that was rejected, or goes on with a frame whose control state is read off -/
macro "one_tac" hrun:ident : tactic =>
  `(tactic| first
    | exact one_reject _ _ _
    | exact One.run _ $hrun rfl rfl
    | exact One.run _ $hrun rfl ⟨rfl, rfl⟩)

theorem callFunction_one (orc : Oracle) (m : PM) (f : Frame) (hrun : m.status = .running) :
    One (fun f' => f'.state = .s0) (callFunction orc m f []) := by
  fun_cases callFunction orc m f [] <;> one_tac hrun

theorem headState_enter (f : Frame) (o : Opt) (h : f.state = nameState o) : headState f := by
  unfold headState
  rcases nameState_cases o with ⟨_, _, e⟩ | ⟨_, _, e⟩ | ⟨_, e⟩ | ⟨_, _, e⟩ <;> simp [h, e]

theorem stepFn_next (orc : Oracle) (m : PM) (f : Frame) (tok : Tok) (hrun : m.status = .running) (hm : m.frames = [f])
    (hpush : ¬ (f.state = .s5 ∧ tok = .lbrace)) : One (Next f.state f tok) (stepFn f.state orc m f [] tok) := by
  generalize hs : f.state = s at hpush ⊢
  cases s <;> simp only [stepFn]
  case s0 =>
    obtain ⟨-, hst, hss, -⟩ := handleDeprecated_line m f
    rw [hrun] at hst; rw [hs] at hss
    -- `step_s0` looks at the stack below: `fun_cases` wants a variable there, and the equation rules out the arm that pops
    generalize hrest : ([] : List Frame) = rest
    fun_cases step_s0 orc m f rest tok
    all_goals cases hrest
    all_goals simp only [‹handleDeprecated m f = _›] at hst hss
    case case5 | case6 => exact One.run _ hst rfl hss
    case case7 => exact One.run _ hst rfl (.inr (.inr (.inr (.inr rfl))))
    case case8 => exact One.run _ hst rfl (.inl rfl)
    case case12 o _ _ => exact One.run _ hst rfl (headState_enter _ o rfl)
    all_goals exact one_reject _ _ _
  case s1 =>
    fun_cases step_s1 orc m f [] tok
    case case4 r hopt o hget _ _ | case5 r hopt o hget _ =>
      refine One.run _ hrun rfl ?_
      simp +zetaDelta only [Next, isList_setFlags f r o _ _ _ hopt hget]
      by_cases hl : o.flags.list = true <;> simp [hl]
    all_goals one_tac hrun
  case s2 =>
    fun_cases step_s2 orc m f [] tok
    case case5 isList v =>
      refine (storeValue_one orc m f v _ hrun).mono fun f' ⟨h1, h2⟩ => ?_
      have hil : f.isList = isList := by
        simp only [Frame.isList, isList]; cases f.opt.bind f.cfg.getOpt <;> rfl
      simp only [Next, hil]
      cases hl : isList <;> simp [hl] at h1 h2 ⊢ <;> simp [h1, h2, hil, hl]
    all_goals one_tac hrun
  case s3 =>
    fun_cases step_s3 orc m f [] tok
    case case2 v => exact (storeValue_one orc m f v .s0 hrun).mono fun f' h => h.1
    all_goals one_tac hrun
  case s4 =>
    fun_cases step_s4 orc m f [] tok
    case case3 m2 hv => exact One.run _ ((runValid_some orc _ _ _ hv).1.trans hrun) rfl rfl
    all_goals one_tac hrun
  case s5 =>
    fun_cases step_s5 orc m f [] tok
    case case2 => exact absurd ⟨rfl, rfl⟩ hpush
    all_goals one_tac hrun
  case s6 => fun_cases step_s6 orc m f [] tok <;> one_tac hrun
  case s7 => fun_cases step_s7 orc m f [] tok <;> one_tac hrun
  case s8 => fun_cases step_s8 orc m f [] tok <;> first | one_tac hrun | exact callFunction_one orc m f hrun
  case s9 => fun_cases step_s9 orc m f [] tok <;> first | one_tac hrun | exact callFunction_one orc m f hrun
  case s10 => fun_cases step_s10 orc m f [] tok <;> one_tac hrun
  case s11 => fun_cases step_s11 orc m f [] tok <;> one_tac hrun
  case s12 =>
    fun_cases step_s12 orc m f [] tok
    case case1 => exact One.run _ hrun rfl hs
    case case2 h => exact One.run _ hrun rfl (Eq.mpr (if_pos h) rfl)
    case case3 h => exact One.run _ hrun rfl (Eq.mpr (if_neg h) hs)
    case case4 => exact One.run f hrun hm (by simp only [Next]; exact hs)
  case s13 =>
    fun_cases step_s13 orc m f [] tok
    case case1 hit h => exact One.run _ hrun rfl (Eq.mpr (if_pos h) rfl)
    case case2 hit h => exact One.run f hrun hm (Eq.mpr (if_neg h) ⟨hs, rfl⟩)
  case s14 => fun_cases step_s14 orc m f [] tok <;> one_tac hrun

@[simp] theorem isList_addLine (f : Frame) (nl : Nat) : (f.addLine nl).isList = f.isList := by
  unfold Frame.isList
  rw [show (f.addLine nl).cfg.getOpt = f.cfg.getOpt from funext (getOpt_addLine f nl)]
  rfl

theorem next_addLine (s : PState) (f : Frame) (nl : Nat) (tok : Tok) (f' : Frame) : Next s (f.addLine nl) tok f' = Next s f tok f' := by
  unfold Next
  rw [isList_addLine]
  rfl

theorem pstep_next (orc : Oracle) (m : PM) (f : Frame) (tok : Tok) (nl : Nat) (hrun : m.status = .running) (hfr : m.frames = [f])
    (hin : tok.inner = true) (hc : tok.isComment = false ∨ f.state = .s0) (hpush : ¬ (f.state = .s5 ∧ tok = .lbrace)) :
    One (Next f.state f tok) (pstep orc m tok nl) := by
  rw [pstep_running orc m f [] tok nl hrun hfr hin hc]
  exact (stepFn_next orc { m with frames := [f.addLine nl] } (f.addLine nl) tok hrun rfl hpush).mono fun f' h => (next_addLine _ f nl tok f').mp h

theorem tr_s6_str (orc : Oracle) (m : PM) (f : Frame) (v : Bytes) (nl : Nat)
    (hrun : m.status = .running) (hfr : m.frames = [f]) (hs : f.state = .s6) :
    One (fun f' => f'.state = .s5) (pstep orc m (.str v) nl) :=
  (pstep_next orc m f _ nl hrun hfr rfl (Or.inl rfl) (fun hh => by simp at hh)).mono fun f' hn => by rw [hs] at hn; exact hn

/-- at an item boundary -/
abbrev Bnd (m : PM) : Prop := One (fun f => f.state = .s0) m

theorem One.step {P Q : Frame → Prop} (orc : Oracle) {m : PM} (t : Tok) (n : Nat) (h : One P m)
    (hstep : ∀ f, m.status = .running → m.frames = [f] → P f → One Q (pstep orc m t n)) : One Q (pstep orc m t n) := by
  rcases h with h | ⟨hr, f, hf, hp⟩
  · left; rw [pstep_stopped orc m t n h]; exact h
  · exact hstep f hr hf hp

theorem One.next {P Q : Frame → Prop} (orc : Oracle) {m : PM} (tok : Tok) (n : Nat) (h : One P m) (hin : tok.inner = true)
    (hc : tok.isComment = false) (hpush : tok ≠ .lbrace ∨ ∀ f, P f → f.state ≠ .s5)
    (hq : ∀ f f', P f → Next f.state f tok f' → Q f') : One Q (pstep orc m tok n) :=
  h.step orc tok n fun f hr hf hp =>
    (pstep_next orc m f tok n hr hf hin (Or.inl hc) (fun hh => hpush.elim (· hh.2) (· f hp hh.1))).mono fun f' hn => hq f f' hp hn

theorem asg_ne (app : Bool) : asgTok app ≠ .lbrace ∧ (asgTok app).isComment = false := by
  cases app <;> simp [asgTok, Tok.isComment]

theorem after_name (orc : Oracle) (m : PM) (name : Bytes) (n1 : Nat) (h : Bnd m) : One headState (pstep orc m (.str name) n1) :=
  h.next orc _ _ rfl rfl (.inl nofun) (fun f f' hs hn => by rw [hs] at hn; exact hn)

theorem after_asg (orc : Oracle) (m : PM) (name : Bytes) (n1 : Nat) (app : Bool) (n2 : Nat) (h : Bnd m) :
    One (fun f' => ((f'.state = .s3 ∧ f'.isList = true) ∨ (f'.state = .s2 ∧ f'.isList = false)) ∨ f'.state = .s14)
      (pstep orc (pstep orc m (.str name) n1) (asgTok app) n2) := by
  refine (after_name orc m name n1 h).next orc _ _ (asgTok_ok app).1 (asg_ne app).2 (.inl (asg_ne app).1) ?_
  intro f f' hs hn
  rcases hs with hs | hs | hs | hs | hs <;> cases app <;> rw [hs] at hn <;>
    first | exact False.elim hn | exact Or.inl hn | exact Or.inr hn

theorem item_assign (orc : Oracle) (m : PM) (name : Bytes) (n1 : Nat) (app : Bool) (n2 : Nat) (v : Bytes) (n3 : Nat) (h : Bnd m) :
    Bnd (parseToks orc m [(.str name, n1), (asgTok app, n2), (.str v, n3)]) := by
  simp only [parseToks_cons, parseToks_nil]
  refine (after_asg orc m name n1 app n2 h).next orc _ _ rfl rfl (.inl nofun) fun f f' hs hn => ?_
  rcases hs with (⟨hs, hl⟩ | ⟨hs, hl⟩) | hs <;> rw [hs] at hn <;> first | exact hn | exact (if_neg (by simp [hl])).mp hn

def S13 (ig : Ignore) (f : Frame) : Prop := f.state = .s13 ∧ f.ignore = ig

theorem next_s13_keep {ig : Ignore} {f f' : Frame} {tok : Tok} (hs : S13 ig f) (ht : (∃ v, tok = .str v) ∨ tok = .comma)
    (hn : Next f.state f tok f') : S13 ig f' := by
  rw [hs.1] at hn
  obtain ⟨h1, h2⟩ : f'.state = .s13 ∧ f'.ignore = f.ignore := by rcases ht with ⟨v, rfl⟩ | rfl <;> exact hn
  exact ⟨h1, h2.trans hs.2⟩

theorem next_s13_close {ig : Ignore} {f f' : Frame} {tok : Tok} (hs : S13 ig f)
    (ht : ig = .rparen ∧ tok = .rparen ∨ ig = .rbrace ∧ tok = .rbrace) (hn : Next f.state f tok f') : f'.state = .s0 := by
  obtain ⟨h1, h2⟩ := hs
  rw [h1] at hn
  unfold Next at hn
  rcases ht with ⟨rfl, rfl⟩ | ⟨rfl, rfl⟩ <;> (rw [h2] at hn; exact hn)

/-- comma-separated values, in a list (`A`, `B` = states 2, 4) or in the arguments of a call (states 8, 9): `A` expects a
value, `B` follows one; started in `A` if `b`, else in `B` -/
theorem seq_vals (orc : Oracle) (A B : Frame → Prop) (ig : Ignore)
    (hA : ∀ f f' v, A f → Next f.state f (.str v) f' → B f') (hB : ∀ f f', B f → Next f.state f .comma f' → A f')
    (vs : List (Nat × Bytes × Nat)) : ∀ (b : Bool) (m : PM),
    One (fun f => (if b then A f else B f) ∨ S13 ig f) m →
    One (fun f => (A f ∨ B f) ∨ S13 ig f) (parseToks orc m (flatSeq b vs)) := by
  induction vs with
  | nil =>
    intro b m h
    refine h.mono fun f hf => hf.imp_left fun hf => ?_
    cases b
    · exact .inr hf
    · exact .inl hf
  | cons x t ih =>
    obtain ⟨c, v, n⟩ := x
    have value : ∀ m : PM, One (fun f => A f ∨ S13 ig f) m → One (fun f => (if false then A f else B f) ∨ S13 ig f) (pstep orc m (.str v) n) :=
      fun m h => h.next orc _ _ rfl rfl (.inl nofun) fun f f' hs hn =>
        hs.elim (fun hs => .inl (hA f f' v hs hn)) (fun hs => .inr (next_s13_keep hs (.inl ⟨v, rfl⟩) hn))
    intro b m h
    cases b with
    | true => exact ih false _ (value m h)
    | false =>
      refine ih false _ (value _ (h.next orc _ _ rfl rfl (.inl nofun) fun f f' hs hn => ?_))
      exact hs.elim (fun hs => .inl (hB f f' hs hn)) (fun hs => .inr (next_s13_keep hs (.inr rfl) hn))

theorem seq_list (orc : Oracle) (vs : List (Nat × Bytes × Nat)) (b : Bool) (m : PM)
    (h : One (fun f => ((if b then f.state = .s2 else f.state = .s4) ∧ f.isList = true) ∨ S13 .rbrace f) m) :
    One (fun f => ((f.state = .s2 ∨ f.state = .s4) ∧ f.isList = true) ∨ S13 .rbrace f) (parseToks orc m (flatSeq b vs)) := by
  refine (seq_vals orc (fun f => f.state = .s2 ∧ f.isList = true) (fun f => f.state = .s4 ∧ f.isList = true) .rbrace
    (fun f f' v hs hn => ?_) (fun f f' hs hn => ?_) vs b m (h.mono fun f hf => ?_)).mono fun f hf => ?_
  · rw [hs.1] at hn; exact Eq.mp (if_pos hs.2) hn
  · rw [hs.1] at hn; exact ⟨hn.1, hn.2.trans hs.2⟩
  · cases b <;> exact hf
  · exact hf.imp_left fun h => h.elim (fun h => ⟨.inl h.1, h.2⟩) (fun h => ⟨.inr h.1, h.2⟩)

theorem item_list_pre (orc : Oracle) (m : PM) (name : Bytes) (n1 : Nat) (app : Bool) (n2 n3 : Nat) (vs : List (Nat × Bytes × Nat)) (h : Bnd m) :
    One (fun f => ((f.state = .s2 ∨ f.state = .s4) ∧ f.isList = true) ∨ S13 .rbrace f)
      (parseToks orc m ([(.str name, n1), (asgTok app, n2), (.lbrace, n3)] ++ flatSeq true vs)) := by
  rw [parseToks_append]
  refine seq_list orc vs true _ ?_
  simp only [parseToks_cons, parseToks_nil]
  refine (after_asg orc m name n1 app n2 h).next orc _ _ rfl rfl (.inr fun f hs => ?_) fun f f' hs hn => ?_
  · rcases hs with (hs | hs) | hs <;> simp [hs]
  · rcases hs with (⟨hs, hl⟩ | ⟨hs, hl⟩) | hs <;> rw [hs] at hn <;>
      first | exact False.elim hn | exact Or.inr hn | exact Or.inl ⟨hn.1, hn.2.trans hl⟩

theorem noPop_of_One {P : Frame → Prop} {m : PM} (h : One P m) (hp : ∀ f, P f → f.state ≠ .s0) : noPop m = true := by
  rcases h with h | ⟨hr, f, hf, hpf⟩
  · simp [noPop, h]
  · have := hp f hpf
    simp [noPop, hf, this]

theorem item_list_close (orc : Oracle) (m : PM) (n4 : Nat)
    (h : One (fun f => ((f.state = .s2 ∨ f.state = .s4) ∧ f.isList = true) ∨ S13 .rbrace f) m) :
    noPop m = true ∧ Bnd (pstep orc m .rbrace n4) := by
  refine ⟨noPop_of_One h fun f hf => ?_, h.next orc _ _ rfl rfl (.inl nofun) fun f f' hs hn => ?_⟩
  · rcases hf with ⟨h1 | h1, _⟩ | ⟨h1, _⟩ <;> simp [h1]
  · rcases hs with ⟨hs | hs, hl⟩ | hs
    · rw [hs] at hn; exact hn
    · rw [hs] at hn; exact hn
    · exact next_s13_close hs (.inr ⟨rfl, rfl⟩) hn

theorem seq_call (orc : Oracle) (vs : List (Nat × Bytes × Nat)) (b : Bool) (m : PM)
    (h : One (fun f => (if b then f.state = .s8 else f.state = .s9) ∨ S13 .rparen f) m) :
    One (fun f => (f.state = .s8 ∨ f.state = .s9) ∨ S13 .rparen f) (parseToks orc m (flatSeq b vs)) :=
  seq_vals orc (fun f => f.state = .s8) (fun f => f.state = .s9) .rparen
    (fun f f' v hs hn => by rw [hs] at hn; exact hn) (fun f f' hs hn => by rw [hs] at hn; exact hn) vs b m h

theorem item_call (orc : Oracle) (m : PM) (name : Bytes) (n1 n2 : Nat) (args : List (Nat × Bytes × Nat)) (n3 : Nat) (h : Bnd m) :
    Bnd (parseToks orc m ([(.str name, n1), (.lparen, n2)] ++ flatSeq true args ++ [(.rparen, n3)])) := by
  rw [parseToks_append, parseToks_append]
  have h2 : One (fun f => (if true then f.state = .s8 else f.state = .s9) ∨ S13 .rparen f) (parseToks orc m [(.str name, n1), (.lparen, n2)]) := by
    simp only [parseToks_cons, parseToks_nil]
    refine (after_name orc m name n1 h).next orc _ _ rfl rfl (.inl nofun) fun f f' hs hn => ?_
    rcases hs with hs | hs | hs | hs | hs <;> rw [hs] at hn <;> first | exact False.elim hn | exact Or.inl hn | exact Or.inr hn
  have h3 := seq_call orc args true _ h2
  simp only [parseToks_cons, parseToks_nil] at h3 ⊢
  refine h3.next orc _ _ rfl rfl (.inl nofun) fun f f' hs hn => ?_
  rcases hs with (hs | hs) | hs
  · rw [hs] at hn; exact hn
  · rw [hs] at hn; exact hn
  · exact next_s13_close hs (.inl ⟨rfl, rfl⟩) hn

theorem item_comment (orc : Oracle) (m : PM) (t : Bytes) (n : Nat) (h : Bnd m) : Bnd (pstep orc m (.comment t) n) :=
  h.step orc _ _ fun f hr hf hs =>
    (pstep_next orc m f _ n hr hf rfl (Or.inr hs) (fun hh => by simp at hh)).mono fun f' hn => by rw [hs] at hn; exact hn

def Pushed (m : PM) : Prop :=
  m.status = .running ∧ ∃ child parent, m.frames = [child, parent] ∧ child.state = .s0 ∧ m.maxDepth ≥ 1

theorem tr_s5_lbrace (orc : Oracle) (m : PM) (f : Frame) (nl : Nat)
    (hrun : m.status = .running) (hfr : m.frames = [f]) (hs : f.state = .s5) :
    (pstep orc m .lbrace nl).status ≠ .running ∨ Pushed (pstep orc m .lbrace nl) := by
  rw [pstep_running orc m f [] _ nl hrun hfr rfl (Or.inl rfl), hs]
  simp only [stepFn, step_s5]
  split
  · split
    · exact Or.inl (by simp)
    · split
      · exact Or.inr ⟨hrun, _, _, rfl, rfl, Nat.le_trans (by decide : 1 ≤ 2) (Nat.le_max_right _ _)⟩
      · exact Or.inl (by simp)
  · exact Or.inl (by simp)

/-- after the head of a section item: rejected, opened, or being skipped -/
def Head3 (m1 : PM) : Prop :=
  m1.status ≠ .running ∨ Pushed m1 ∨ (m1.status = .running ∧ ∃ f, m1.frames = [f] ∧ f.state = .s12 ∧ f.depth = 1)

theorem sec_brace (orc : Oracle) (m' : PM) (n2 : Nat) (hm' : One (fun f => headState f ∨ f.state = .s11) m') :
    Head3 (pstep orc m' .lbrace n2) := by
  rcases hm' with hst | ⟨hr, f, hf, hs⟩
  · left; rw [pstep_stopped orc m' _ _ hst]; exact hst
  · by_cases h5 : f.state = .s5
    · exact (tr_s5_lbrace orc m' f n2 hr hf h5).imp_right Or.inl
    · rcases pstep_next orc m' f .lbrace n2 hr hf rfl (Or.inl rfl) (fun hh => h5 hh.1) with h | ⟨hr', f', hf', hn⟩
      · exact Or.inl h
      · refine Or.inr (Or.inr ⟨hr', f', hf', ?_⟩)
        rcases hs with (hs | hs | hs | hs | hs) | hs <;> rw [hs] at hn <;> first | exact False.elim hn | exact hn

theorem sec_head (orc : Oracle) (m : PM) (name : Bytes) (n1 : Nat) (title : Option (Bytes × Nat)) (n2 : Nat) (h : Bnd m) :
    Head3 (parseToks orc m (secHead name n1 title n2)) := by
  have h1 := after_name orc m name n1 h
  cases title with
  | none =>
    simp only [secHead, List.append_nil, List.cons_append, List.nil_append, parseToks_cons, parseToks_nil]
    exact sec_brace orc _ n2 (h1.mono (fun _ h => Or.inl h))
  | some tn =>
    obtain ⟨t, n⟩ := tn
    simp only [secHead, List.cons_append, List.nil_append, parseToks_cons, parseToks_nil]
    refine sec_brace orc _ n2 (h1.next orc _ _ rfl rfl (.inl nofun) fun f f' hs hn => ?_)
    rcases hs with hs | hs | hs | hs | hs <;> rw [hs] at hn <;>
      first | exact False.elim hn | exact Or.inr hn | exact Or.inl (Or.inr (Or.inl hn))

theorem sec_close (orc : Oracle) (r : PM) (parent : Frame) (n3 : Nat) (h : Bnd r) :
    Bnd (pstep orc (liftM r [parent]) .rbrace n3) := by
  rcases h with hst | ⟨hr, c, hf, hs⟩
  · left
    rw [pstep_stopped orc _ _ _ (by simpa using hst)]
    simpa using hst
  · have e : liftM r [parent] = { r with frames := [c, parent], maxDepth := r.maxDepth + 1 } := by
      rw [liftM_running _ _ hr, hf]; rfl
    rw [e, pstep_running orc { r with frames := [c, parent], maxDepth := r.maxDepth + 1 } c [parent] .rbrace n3 hr rfl rfl (Or.inl rfl), hs]
    simp only [stepFn, step_s0, handleDeprecated_spec]
    -- the parent goes on in state 0 unless its validation callback vetoes
    split
    · exact one_reject _ _ _
    · split
      · exact one_reject _ _ _
      · rename_i m1 hv
        exact One.run _ ((runValid_some orc _ _ _ hv).1.trans hr) rfl rfl

theorem depthAfter_flatSeq (vs : List (Nat × Bytes × Nat)) : ∀ (b : Bool) (d : Nat), depthAfter d (flatSeq b vs) = some d := by
  induction vs with
  | nil => intro b d; cases b <;> rfl
  | cons x t ih =>
    obtain ⟨c, v, n⟩ := x
    intro b d
    cases b <;> simp [flatSeq, depthAfter, ih]

mutual
theorem flat_balanced : ∀ (i : Item) (d : Nat), d ≥ 1 → depthAfter d i.flat = some d ∧ (∀ t ∈ i.flat, t.1.inner = true)
  | .assign name n1 app n2 v n3, d, _ => by
    simp only [Item.flat]
    constructor
    · cases app <;> simp [depthAfter, asgTok]
    · simp only [List.forall_mem_cons]
      exact ⟨rfl, (asgTok_ok app).1, rfl, List.forall_mem_nil _⟩
  | .list name n1 app n2 n3 vs n4, d, hd => by
    simp only [Item.flat]
    constructor
    · have : ¬ (d + 1 ≤ 1) := by omega
      rw [depthAfter_append, depthAfter_append]
      cases app <;> simp [depthAfter, asgTok, depthAfter_flatSeq, this]
    · simp only [List.cons_append, List.nil_append, List.forall_mem_cons, List.forall_mem_append]
      exact ⟨rfl, (asgTok_ok app).1, rfl, fun t ht => (flatSeq_ok true vs t ht).1, rfl, List.forall_mem_nil _⟩
  | .call name n1 n2 args n3, d, _ => by
    simp only [Item.flat]
    constructor
    · rw [depthAfter_append, depthAfter_append]
      simp [depthAfter, depthAfter_flatSeq]
    · simp only [List.cons_append, List.nil_append, List.forall_mem_cons, List.forall_mem_append]
      exact ⟨rfl, rfl, fun t ht => (flatSeq_ok true args t ht).1, rfl, List.forall_mem_nil _⟩
  | .comment t n, d, _ => by
    simp [Item.flat, depthAfter, Tok.inner]
  | .sec name n1 title n2 body n3, d, hd => by
    simp only [Item.flat]
    obtain ⟨hb, hin⟩ := flats_balanced body (d + 1) (by omega)
    constructor
    · have : depthAfter d ((secHead name n1 title n2 ++ flats body) ++ [(Tok.rbrace, n3)]) =
          (depthAfter (d + 1) (flats body)).bind (fun e => depthAfter e [(.rbrace, n3)]) := by
        rw [List.append_assoc, depthAfter_append]
        cases title with
        | none => simp [secHead, depthAfter, depthAfter_append]
        | some tn => obtain ⟨t, n⟩ := tn; simp [secHead, depthAfter, depthAfter_append]
      rw [this, hb]
      have : ¬ (d + 1 ≤ 1) := by omega
      simp [depthAfter, this]
    · simp only [List.forall_mem_append, List.forall_mem_cons]
      exact ⟨⟨fun t ht => (secHead_ok name n1 title n2 t ht).1, hin⟩, rfl, List.forall_mem_nil _⟩
theorem flats_balanced : ∀ (is : List Item) (d : Nat), d ≥ 1 → depthAfter d (flats is) = some d ∧ (∀ t ∈ flats is, t.1.inner = true)
  | [], d, _ => by simp [flats, depthAfter]
  | i :: is, d, hd => by
    obtain ⟨h1, h2⟩ := flat_balanced i d hd
    obtain ⟨h3, h4⟩ := flats_balanced is d hd
    simp only [flats]
    constructor
    · rw [depthAfter_append, h1]; simpa using h3
    · exact List.forall_mem_append.2 ⟨h2, h4⟩
end


mutual
theorem evalItem_total (orc : Oracle) : ∀ (i : Item) (m : PM), Bnd m → ∃ r, evalItem orc m i = some r ∧ Bnd r
  | .assign name n1 app n2 v n3, m, h => ⟨_, by simp only [evalItem], item_assign orc m name n1 app n2 v n3 h⟩
  | .list name n1 app n2 n3 vs n4, m, h => by
    have hp := item_list_pre orc m name n1 app n2 n3 vs h
    obtain ⟨hnp, hb⟩ := item_list_close orc _ n4 hp
    exact ⟨_, by simp only [evalItem, hnp, if_true], hb⟩
  | .call name n1 n2 args n3, m, h => ⟨_, by simp only [evalItem], item_call orc m name n1 n2 args n3 h⟩
  | .comment t n, m, h => ⟨_, by simp only [evalItem], item_comment orc m t n h⟩
  | .sec name n1 title n2 body n3, m, h => by
    have hh := sec_head orc m name n1 title n2 h
    simp only [evalItem]
    generalize parseToks orc m (secHead name n1 title n2) = m1 at hh ⊢
    rcases hh with hst | ⟨hr, child, parent, hfr, hcs, hmd⟩ | ⟨hr, f, hfr, hs12, hd1⟩
    · refine ⟨m1, ?_, Or.inl hst⟩
      have : (m1.status != .running) = true := by simpa using hst
      simp [this]
    · have hnr : (m1.status != .running) = false := by simp [hr]
      have hb0 : Bnd ({ m1 with frames := [child], maxDepth := m1.maxDepth - 1 } : PM) := Or.inr ⟨hr, child, rfl, hcs⟩
      obtain ⟨r, hev, hbr⟩ := evalItems_total orc body _ hb0
      refine ⟨pstep orc (liftM r [parent]) .rbrace n3, ?_, sec_close orc r parent n3 hbr⟩
      simp [hnr, hfr, hmd, hev]
    · have hnr : (m1.status != .running) = false := by simp [hr]
      obtain ⟨hbal, hin⟩ := flats_balanced body 1 (by omega)
      have hall : (flats body).all (fun t => t.1.inner) = true := by
        simp only [List.all_eq_true]; exact hin
      refine ⟨pstep orc (parseToks orc m1 (flats body)) .rbrace n3, ?_, ?_⟩
      · simp [hnr, hfr, hs12, hd1, hbal, hall]
      · rw [C12_skip_body orc (flats body) m1 f [] 1 1 hr hfr hs12 hd1 hin hbal]
        exact (pstep_next orc { m1 with frames := [_] } _ .rbrace n3 hr rfl rfl (Or.inl rfl) (fun hh => by simp at hh)).mono fun f' hn => by
          simpa [Next, Frame.addLine, hs12] using hn
theorem evalItems_total (orc : Oracle) : ∀ (is : List Item) (m : PM), Bnd m → ∃ r, evalItems orc m is = some r ∧ Bnd r
  | [], m, h => ⟨m, by simp only [evalItems], h⟩
  | i :: is, m, h => by
    obtain ⟨m', h1, hb⟩ := evalItem_total orc i m h
    obtain ⟨r, h2, hb2⟩ := evalItems_total orc is m' hb
    exact ⟨r, by simp only [evalItems, h1, h2], hb2⟩
end

end Confuse
