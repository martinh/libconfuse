/-!
# Maximal runs

`takeWhile p` / `dropWhile p` of a list whose run of `p` is known to end at a given element, or somewhere
inside a given prefix; nothing here knows of the model.
-/
namespace Confuse

theorem span_append {α} {p : α → Bool} {a : List α} {d : α} (b : List α) (ha : a.all p = true) (hd : p d = false) :
    (a ++ d :: b).takeWhile p = a ∧ (a ++ d :: b).dropWhile p = d :: b := by
  have ha := List.all_eq_true.1 ha
  have hd : ¬p d = true := by simp [hd]
  rw [List.takeWhile_append_of_pos ha, List.dropWhile_append_of_pos ha, List.takeWhile_cons_of_neg hd,
    List.dropWhile_cons_of_neg hd, List.append_nil]
  exact ⟨rfl, rfl⟩

theorem takeWhile_all {α} {p : α → Bool} {a : List α} (ha : a.all p = true) : a.takeWhile p = a := by
  have := List.takeWhile_append_of_pos (l₂ := []) (List.all_eq_true.1 ha)
  rwa [List.append_nil, List.takeWhile_nil, List.append_nil] at this

theorem span_append_left {α} {p : α → Bool} {x : List α} (b : List α) (h : x.dropWhile p ≠ []) :
    (x ++ b).takeWhile p = x.takeWhile p ∧ (x ++ b).dropWhile p = x.dropWhile p ++ b := by
  obtain ⟨d, r, hr⟩ := List.exists_cons_of_ne_nil h
  have hd := List.head?_dropWhile_not p x
  rw [hr] at hd
  have := span_append (r ++ b) (List.all_takeWhile (l := x)) hd
  rwa [← List.cons_append, ← hr, ← List.append_assoc, List.takeWhile_append_dropWhile] at this

theorem mem_dropWhile {α} {p : α → Bool} {x : List α} {c : α} (hc : c ∈ x) (hp : p c = false) : c ∈ x.dropWhile p := by
  rw [← List.takeWhile_append_dropWhile (p := p) (l := x)] at hc
  exact (List.mem_append.1 hc).resolve_left fun h => Bool.false_ne_true (hp ▸ List.all_eq_true.1 List.all_takeWhile c h)

end Confuse
