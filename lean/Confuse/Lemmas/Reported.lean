import Confuse.Lemmas.Store
import Confuse.Lemmas.OptInv
import Confuse.Lemmas.Resolve
import Confuse.Lemmas.Mono
/-!
# Every rejecting step reports

`rep m` counts what the application has been told so far (diagnostics delivered to the error function
plus callback invocations).  A step that turns a running machine into a rejected one strictly
increases it — with one exemption that is a property of the schema, not of the input: a function
option declared without a function.
-/
namespace Confuse

def rep (m : PM) : Nat := m.diags.length + m.trace.length

def NoCode (f : Frame) : Prop := ∃ r o, f.opt = some r ∧ f.cfg.getOpt r = some o ∧ o.ty = .func ∧ o.info.func = .none

/-- reporting and `OptInv` together: one pass over the parser states proves both, and the first needs the second -/
structure Good (m : PM) (f : Frame) (m' : PM) : Prop where
  rej : m'.status = .rejected → rep m < rep m' ∨ NoCode f
  run : m'.status = .running → ∀ g ∈ m'.frames.head?, OptInv g

@[simp] theorem rep_addDiags (m : PM) (f : Frame) (cs : List DiagCls) : rep (m.addDiags f cs) = rep m + cs.length := by
  simp [rep, PM.addDiags]; omega
@[simp] theorem rep_addCalls (m : PM) (cs : List CbCall) : rep (m.addCalls cs) = rep m + cs.length := by
  simp [rep, PM.addCalls]; omega
@[simp] theorem rep_reject (m : PM) (f : Frame) (rest : List Frame) : rep (m.reject f rest) = rep m := rfl
@[simp] theorem status_addDiags (m : PM) (f : Frame) (cs : List DiagCls) : (m.addDiags f cs).status = m.status := rfl
@[simp] theorem status_addCalls (m : PM) (cs : List CbCall) : (m.addCalls cs).status = m.status := rfl

theorem rep_lt_of_reported (m : PM) (f : Frame) (cs : List CbCall) (ds : List DiagCls) (h : ds ≠ [] ∨ cs ≠ []) :
    rep m < rep ((m.addCalls cs).addDiags f ds) := by
  rw [rep_addDiags, rep_addCalls]
  rcases h with h | h <;> have := List.length_pos_iff.2 h <;> omega

theorem good_reject (m m0 : PM) (f g : Frame) (rest : List Frame) (h : rep m < rep m0 ∨ NoCode f) : Good m f (m0.reject g rest) :=
  ⟨fun _ => by simpa using h, fun hr => by simp at hr⟩

theorem good_rejectWith (m m0 : PM) (f g : Frame) (rest : List Frame) (cls : DiagCls) (h : rep m ≤ rep m0) :
    Good m f (m0.rejectWith g rest cls) :=
  good_reject m (m0.addDiags g [cls]) f g rest (.inl (by rw [rep_addDiags]; exact Nat.lt_succ_of_le h))

theorem good_run (m : PM) (f : Frame) (m' : PM) (g : Frame) (rest : List Frame) (hs : m'.status = .running) (hf : m'.frames = g :: rest) (hg : OptInv g) :
    Good m f m' :=
  ⟨fun hr => by rw [hs] at hr; exact absurd hr (by decide), optInvM_of m' g rest hf hg⟩

theorem valueKind_of_info {o o' : Opt} (h : o'.info = o.info) (hk : valueKind o) : valueKind o' := by
  unfold valueKind Opt.ty at *
  rw [h]; exact hk

theorem vetoed_rep (orc : Oracle) (m : PM) (f : Frame) (h : runValid orc m f = none) : rep (vetoed orc m f) = rep m + 2 := by
  unfold runValid at h
  unfold vetoed
  cases hopt : f.opt with
  | none => simp [hopt] at h
  | some r =>
    simp only [hopt] at h
    cases hget : f.cfg.getOpt r with
    | none => simp [hget] at h
    | some o => simp only [hget]; simp

theorem storeValue_good (orc : Oracle) (m : PM) (f : Frame) (rest : List Frame) (v : Bytes) (next : PState) (hs : m.status = .running)
    (hinv : ∃ r o, f.opt = some r ∧ f.cfg.getOpt r = some o ∧ valueKind o) (hnext : next = .s0 ∨ next = .s4) :
    Good m f (storeValue orc m f rest v next) := by
  obtain ⟨r, o, hopt, hget, hk⟩ := hinv
  unfold storeValue
  simp only [hopt, hget]
  have h1 := setopt_value_reported orc m.k f.cfg.info o v hk
  have h2 := (setopt_sameDecl orc m.k f.cfg.info o (some v)).1
  generalize setopt orc m.k f.cfg.info o (some v) = out at h1 h2 ⊢
  cases hres : out.res with
  | none =>
    exact good_reject _ _ _ _ _ (Or.inl (rep_lt_of_reported _ _ _ _ (h1 hres)))
  | some i =>
    have hg1 : (f.cfg.setOpt r out.opt).getOpt r = some out.opt := getOpt_setOpt _ _ o _ hget
    generalize hf1 : ({ f with cfg := f.cfg.setOpt r out.opt, opt := some r } : Frame) = f1
    have hf1o : f1.opt = some r := by subst hf1; rfl
    have hf1g : f1.cfg.getOpt r = some out.opt := by subst hf1; exact hg1
    cases hv : runValid orc ((m.addCalls out.calls).addDiags f1 out.diags) f1 with
    | none =>
      refine good_reject _ _ _ _ _ (Or.inl ?_)
      rw [vetoed_rep orc _ f1 hv]; simp; omega
    | some m2 =>
      refine good_run _ _ _ _ rest ((runValid_some orc _ _ _ hv).1.trans hs) rfl ?_
      rcases hnext with rfl | rfl
      · exact optInv_free _ (Or.inl rfl)
      · obtain ⟨o', ho', hi', -⟩ := inheritComment_getOpt f1 r out.opt hf1o hf1g
        unfold OptInv
        exact ⟨r, o', by simp [inheritComment_opt, hf1o], ho', valueKind_of_info (hi'.trans h2) hk⟩

theorem callFunction_good (orc : Oracle) (m : PM) (f : Frame) (rest : List Frame) (hs : m.status = .running)
    (hinv : ∃ r o, f.opt = some r ∧ f.cfg.getOpt r = some o ∧ o.ty = .func) :
    Good m f (callFunction orc m f rest) := by
  obtain ⟨r, o, hopt, hget, hk⟩ := hinv
  unfold callFunction
  simp only [hopt, hget]
  cases hfn : o.info.func with
  | incl =>
    simp only []
    split
    · exact good_run _ _ _ _ rest hs rfl (optInv_free _ (Or.inl rfl))
    · exact good_rejectWith _ _ _ _ _ _ (Nat.le_refl _)
  | user =>
    simp only []
    split
    · refine good_reject _ _ _ _ _ (Or.inl ?_); simp; omega
    · exact good_run _ _ _ _ rest (by simp [hs]) rfl (optInv_free _ (Or.inl rfl))
  | none => exact good_reject _ _ _ _ _ (Or.inr ⟨r, o, hopt, hget, hk, hfn⟩)

/-- closes `Good m f x` where `x` was rejected with a diagnostic of its own, or goes on in a state without obligation -/
macro "good_auto" hs:ident : tactic =>
  `(tactic| first
      | exact good_rejectWith _ _ _ _ _ _ (Nat.le_refl _)
      | (refine good_run _ _ _ _ _ $hs rfl (optInv_free _ ?_); simp; done))

theorem handleDeprecated_rep (m : PM) (f : Frame) : rep m ≤ rep (handleDeprecated m f).1 := by
  rw [handleDeprecated_spec, rep_addCalls, rep_addDiags, Nat.add_assoc]
  exact Nat.le_add_right _ _

theorem step_s0_good (orc : Oracle) (m : PM) (f : Frame) (rest : List Frame) (tok : Tok) (hs : m.status = .running)
    (hst : f.state = .s0) : Good m f (step_s0 orc m f rest tok) := by
  obtain ⟨-, hs0, hst', -⟩ := handleDeprecated_line m f
  have hle := handleDeprecated_rep m f
  rw [hs] at hs0; rw [hst] at hst'
  fun_cases step_s0 orc m f rest tok
  all_goals simp only [‹handleDeprecated m f = _›] at hs0 hle hst'
  -- `}`: a veto has logged the call and a diagnostic
  case case3 => exact good_reject _ _ _ _ _ (Or.inl (by rw [vetoed_rep orc _ _ ‹_›]; omega))
  case case4 hv => exact good_run _ _ _ _ _ ((runValid_some orc _ _ _ hv).1.trans hs0) rfl (optInv_free _ (Or.inl rfl))
  case case5 | case6 => exact good_run _ _ _ _ rest hs0 rfl (optInv_free _ (Or.inl hst'))
  -- an unknown name: skipped, added as a string option, or reported by the resolver
  case case7 => exact good_run _ _ _ _ rest hs0 rfl (optInv_free _ (by simp))
  case case8 =>
    exact good_run _ _ _ _ rest hs0 rfl ((optInv_val (Or.inl rfl)).2 ⟨_, _, rfl, getOpt_appended _ _, by simp [valueKind, Opt.ty, Opt.info]⟩)
  case case9 => exact good_rejectWith _ _ _ _ _ _ (by simp +zetaDelta; omega)
  case case10 f' _ v _ _ hr hi hk hv =>
    have := List.length_pos_iff.2 (getoptPath_unresolved_diag f'.cfg v (by rintro rfl; simp at hv) (by simpa using hi) (by simpa using hk) hr)
    exact good_reject _ _ _ _ _ (Or.inl (by simp +zetaDelta; omega))
  case case11 f' _ v _ _ ref hr hget => have := getoptPath_valid f'.cfg v ref hr; simp [hget] at this
  -- a known name: the state entered is the one for the option's kind
  case case12 ref _ o hget st =>
    refine good_run _ _ _ _ rest hs0 rfl ?_
    rcases nameState_cases o with ⟨h1, _, e⟩ | ⟨h1, h2, e⟩ | ⟨h3, e⟩ | ⟨h1, h3, e⟩
    · exact (optInv_s6 e).2 ⟨ref, o, rfl, hget, h1⟩
    · exact (optInv_s5 e).2 ⟨ref, o, rfl, hget, h1, fun h => absurd (h2 ▸ h) nofun⟩
    · exact (optInv_func (Or.inl e)).2 ⟨ref, o, rfl, hget, h3⟩
    · exact (optInv_val (Or.inl e)).2 ⟨ref, o, rfl, hget, h1, h3⟩
  all_goals exact good_rejectWith _ _ _ _ _ _ hle

theorem good_frames (m : PM) (fs : List Frame) (f : Frame) (m' : PM) (h : Good { m with frames := fs } f m') : Good m f m' :=
  ⟨h.rej, h.run⟩

theorem good_stopped (m : PM) (f : Frame) (m' : PM) (h : m'.status = .accepted) : Good m f m' :=
  ⟨fun hr => by rw [h] at hr; exact absurd hr (by decide), fun hr => by rw [h] at hr; exact absurd hr (by decide)⟩

theorem stepFn_good (orc : Oracle) (m : PM) (f : Frame) (rest : List Frame) (tok : Tok)
    (hrun : m.status = .running) (hm : m.frames = f :: rest) (hF : OptInv f) : Good m f (stepFn f.state orc m f rest tok) := by
  generalize hst : f.state = s
  cases s <;> simp only [stepFn]
  case s0 => exact step_s0_good orc m f rest tok hrun hst
  case s1 =>
    -- the invariant says which branch of the step is taken
    obtain ⟨r, o, hopt, hget, hk⟩ := (optInv_val (Or.inl hst)).1 hF
    have go : ∀ g : Frame, g.opt = some r → (∃ o', g.cfg.getOpt r = some o' ∧ o'.info = o.info) →
        g.state = (if o.flags.list then PState.s3 else PState.s2) → Good m f { m with frames := g :: rest } := by
      intro g h1 ⟨o', h2, h2'⟩ h3
      refine good_run _ _ _ _ rest hrun rfl ((optInv_val ?_).2 ⟨r, o', h1, h2, valueKind_of_info h2' hk⟩)
      rw [h3]
      by_cases hl : o.flags.list = true <;> simp [hl]
    have hset : ∀ fl, ∃ o', (f.cfg.setOpt r (o.setFlags fl)).getOpt r = some o' ∧ o'.info = o.info :=
      fun fl => ⟨_, getOpt_setOpt _ _ o _ hget, by cases o; rfl⟩
    simp only [step_s1, hopt, hget]
    cases tok with
    | pluseq => simp only []; split; good_auto hrun; exact go _ rfl (hset _) rfl
    | eq => exact go _ rfl (hset _) rfl
    | _ => good_auto hrun
  case s2 =>
    have hv := (optInv_val (Or.inr (Or.inl hst))).1 hF
    fun_cases step_s2 orc m f rest tok
    all_goals first
      | good_auto hrun
      | exact storeValue_good orc m f rest _ _ hrun hv (by split <;> simp)
  case s3 =>
    have hv := (optInv_val (Or.inr (Or.inr (Or.inl hst)))).1 hF
    fun_cases step_s3 orc m f rest tok
    · exact good_run _ _ _ _ rest hrun rfl ((optInv_val (Or.inr (Or.inl rfl))).2 hv)
    · exact storeValue_good orc m f rest _ _ hrun hv (Or.inl rfl)
    · good_auto hrun
  case s4 =>
    have hv := (optInv_val (Or.inr (Or.inr (Or.inr hst)))).1 hF
    fun_cases step_s4 orc m f rest tok
    case case1 => exact good_run _ _ _ _ rest hrun rfl ((optInv_val (Or.inr (Or.inl rfl))).2 hv)
    case case2 hvv => exact good_reject _ _ _ _ _ (Or.inl (by rw [vetoed_rep orc _ _ hvv]; omega))
    case case3 hvv => exact good_run _ _ _ _ rest ((runValid_some orc _ _ _ hvv).1.trans hrun) rfl (optInv_free _ (Or.inl rfl))
    all_goals good_auto hrun
  case s5 =>
    obtain ⟨r, o, hopt, hget, hty, htitle⟩ := (optInv_s5 hst).1 hF
    simp only [step_s5]
    cases tok with
    | lbrace =>
      simp only [hopt, Option.bind_some, hget]
      have hc := setopt_sec_cell orc m.k f.cfg.info o f.opttitle hty htitle
      generalize setopt orc m.k f.cfg.info o f.opttitle = out at hc ⊢
      cases hres : out.res with
      | none =>
        exact good_reject _ _ _ _ _ (Or.inl (rep_lt_of_reported _ _ _ _ (Or.inl (hc.1 hres))))
      | some i =>
        obtain ⟨sec, hsec⟩ := hc.2 i hres
        simp only [hsec]
        exact good_run _ _ _ _ _ (by simp [hrun]) rfl (optInv_free _ (Or.inl rfl))
    | _ => good_auto hrun
  case s6 =>
    obtain ⟨r, o, hopt, hget, hty⟩ := (optInv_s6 hst).1 hF
    fun_cases step_s6 orc m f rest tok
    · exact good_run _ _ _ _ rest hrun rfl ((optInv_s5 rfl).2 ⟨r, o, hopt, hget, hty, fun _ => rfl⟩)
    · good_auto hrun
  case s7 =>
    have hv := (optInv_func (Or.inl hst)).1 hF
    fun_cases step_s7 orc m f rest tok
    · exact good_run _ _ _ _ rest hrun rfl ((optInv_func (Or.inr (Or.inl rfl))).2 hv)
    · good_auto hrun
  case s8 =>
    have hv := (optInv_func (Or.inr (Or.inl hst))).1 hF
    fun_cases step_s8 orc m f rest tok
    · exact callFunction_good orc m f rest hrun hv
    · exact good_run _ _ _ _ rest hrun rfl ((optInv_func (Or.inr (Or.inr rfl))).2 hv)
    · good_auto hrun
  case s9 =>
    have hv := (optInv_func (Or.inr (Or.inr hst))).1 hF
    fun_cases step_s9 orc m f rest tok
    · exact callFunction_good orc m f rest hrun hv
    · exact good_run _ _ _ _ rest hrun rfl ((optInv_func (Or.inr (Or.inl rfl))).2 hv)
    · good_auto hrun
  case s10 => fun_cases step_s10 orc m f rest tok <;> good_auto hrun
  case s11 => fun_cases step_s11 orc m f rest tok <;> good_auto hrun
  case s12 =>
    fun_cases step_s12 orc m f rest tok
    case case4 => exact good_run _ _ _ _ rest hrun hm (optInv_free _ (by simp [hst]))
    all_goals exact good_run _ _ _ _ rest hrun rfl (optInv_free _ (by simp [hst]))
  case s13 =>
    fun_cases step_s13 orc m f rest tok
    · exact good_run _ _ _ _ rest hrun rfl (optInv_free _ (Or.inl rfl))
    · exact good_run _ _ _ _ rest hrun hm (optInv_free _ (by simp [hst]))
  case s14 => fun_cases step_s14 orc m f rest tok <;> good_auto hrun

theorem pstep_good (orc : Oracle) (m : PM) (f : Frame) (rest : List Frame) (tok : Tok) (nl : Nat)
    (hrun : m.status = .running) (hfr : m.frames = f :: rest) (hinv : OptInv f) :
    Good m (f.addLine nl) (pstep orc m tok nl) := by
  rw [pstep_top orc m f rest tok nl hrun hfr]
  apply good_frames m (f.addLine nl :: rest)
  exact stepAt_cases orc _ _ rest tok (fun c => good_rejectWith _ _ _ _ _ _ (Nat.le_refl _)) (fun _ _ => good_stopped _ _ _ rfl)
    (good_run _ _ _ _ rest hrun rfl (optInv_addLine f nl hinv))
    (fun _ => stepFn_good orc _ _ rest tok hrun rfl (optInv_addLine f nl hinv))

theorem pstep_optinv (orc : Oracle) (m : PM) (tok : Tok) (nl : Nat) (h : OptInvM m) : OptInvM (pstep orc m tok nl) := by
  refine pstep_cases orc m tok nl (fun _ => h) (fun f rest hrun hfr => ?_)
  rw [← pstep_top orc m f rest tok nl hrun hfr]
  exact (pstep_good orc m f rest tok nl hrun hfr (h hrun f (by simp [hfr]))).run

theorem parseToks_optinv (orc : Oracle) (ts : List LTok) : ∀ m, OptInvM m → OptInvM (parseToks orc m ts) :=
  parseToks_preserves orc (pstep_optinv orc) ts

theorem noCode_addLine (f : Frame) (nl : Nat) (h : NoCode (f.addLine nl)) : NoCode f := by
  obtain ⟨r, o, h1, h2, h3⟩ := h
  exact ⟨r, o, h1, by rw [getOpt_addLine] at h2; exact h2, h3⟩

theorem pstep_reject_reported (orc : Oracle) (m : PM) (tok : Tok) (nl : Nat) (hrun : m.status = .running) (hinv : OptInvM m)
    (hrej : (pstep orc m tok nl).status = .rejected) :
    rep m < rep (pstep orc m tok nl) ∨ ∃ f ∈ m.frames.head?, NoCode f := by
  cases hfr : m.frames with
  | nil =>
    rw [pstep_idle orc m tok nl (Or.inr hfr), hrun] at hrej; exact absurd hrej (by decide)
  | cons f rest =>
    rcases (pstep_good orc m f rest tok nl hrun hfr (hinv hrun f (by simp [hfr]))).rej hrej with h | h
    · exact Or.inl h
    · exact Or.inr ⟨f, by simp, noCode_addLine f nl h⟩

theorem rep_mono {a b : PM} (h : Grows a b) : rep a ≤ rep b := by
  obtain ⟨⟨c1, h1⟩, ⟨c2, h2⟩⟩ := h
  simp [rep, h1, h2]; omega

theorem startPM_optinv (c : Cfg) (text : Bytes) (k0 : Nat) : OptInvM (startPM c text k0) :=
  optInvM_of _ _ [] rfl (optInv_free _ (Or.inl rfl))

/-- the second disjunct exhibits the state before the token that called a function option declared without a function -/
theorem parseToks_reject_reported (orc : Oracle) (ts : List LTok) : ∀ (m : PM), m.status = .running → OptInvM m →
    (parseToks orc m ts).status = .rejected →
    rep m < rep (parseToks orc m ts) ∨
      ∃ pre post, ts = pre ++ post ∧ ∃ f ∈ (parseToks orc m pre).frames.head?, NoCode f := by
  induction ts with
  | nil => intro m hrun _ hrej; rw [parseToks_nil, hrun] at hrej; exact absurd hrej (by decide)
  | cons t ts ih =>
    intro m hrun hinv hrej
    rw [parseToks_cons] at hrej ⊢
    have hg := pstep_grows orc m t.1 t.2
    by_cases h1 : (pstep orc m t.1 t.2).status = .running
    · rcases ih _ h1 (pstep_optinv orc m t.1 t.2 hinv) hrej with h | ⟨pre, post, he, f, hf, hn⟩
      · left; have := rep_mono hg; omega
      · right; exact ⟨t :: pre, post, by rw [he]; rfl, f, by rw [parseToks_cons]; exact hf, hn⟩
    · rw [parseToks_stopped orc _ ts h1] at hrej ⊢
      rcases pstep_reject_reported orc m t.1 t.2 hrun hinv hrej with h | ⟨f, hf, hn⟩
      · exact Or.inl h
      · exact Or.inr ⟨[], t :: ts, rfl, f, hf, hn⟩

end Confuse
