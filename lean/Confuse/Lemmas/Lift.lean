import Confuse.Lemmas.Parser
/-!
# Frame locality of the token machine

`liftM m rest` puts the frames `rest` underneath the stack of `m` (for a machine that has stopped,
the unwinding `goto error` writes its root back through `rest`).  `pstep_lift`: a step of the
machine on the deeper stack is the lifted step of the machine on the shallow stack, for every
token inside the text (end of input does not lift: it is legal on a one-frame stack only; scanner errors are left
out with it) except a `}` that would pop the shallow stack's last frame.  So what a parse does while it
is inside a section never depends on, and never touches, the enclosing frames.
-/
namespace Confuse

def liftM (m : PM) (rest : List Frame) : PM :=
  if m.status = .running then
    { m with frames := m.frames ++ rest, maxDepth := m.maxDepth + rest.length }
  else
    { m with frames := (collapse (m.frames ++ rest)).toList, maxDepth := m.maxDepth + rest.length }

theorem collapseInto_append (c : Frame) (a b : List Frame) :
    collapseInto (collapseInto c a) b = collapseInto c (a ++ b) := by
  induction a generalizing c with
  | nil => rfl
  | cons p ps ih => simp [collapseInto, ih]

@[simp] theorem liftM_nil_running (m : PM) (h : m.status = .running) : liftM m [] = m := by
  rw [liftM, if_pos h, List.append_nil]; rfl

theorem liftM_running (m : PM) (rest : List Frame) (h : m.status = .running) :
    liftM m rest = { m with frames := m.frames ++ rest, maxDepth := m.maxDepth + rest.length } := by
  simp [liftM, h]

@[simp] theorem liftM_status (m : PM) (rest : List Frame) : (liftM m rest).status = m.status := by
  unfold liftM; split <;> rfl

@[simp] theorem liftM_k (m : PM) (rest : List Frame) : (liftM m rest).k = m.k := by
  unfold liftM PM.k; split <;> rfl

theorem liftM_reject (m : PM) (f : Frame) (inner rest : List Frame) :
    liftM (m.reject f inner) rest =
      ({ m with maxDepth := m.maxDepth + rest.length } : PM).reject f (inner ++ rest) := by
  simp [liftM, PM.reject, collapse, collapseInto_append]

theorem liftM_rejectWith (m : PM) (f : Frame) (inner rest : List Frame) (c : DiagCls) :
    liftM (m.rejectWith f inner c) rest =
      ({ m with maxDepth := m.maxDepth + rest.length } : PM).rejectWith f (inner ++ rest) c := by
  simp [PM.rejectWith, liftM_reject, PM.addDiags]

theorem liftM_liftM (m : PM) (a b : List Frame) : liftM (liftM m a) b = liftM m (a ++ b) := by
  by_cases hrun : m.status = .running
  · simp [liftM, hrun, Nat.add_assoc]
  · simp only [liftM, hrun, if_false]
    cases hfs : m.frames ++ a with
    | nil =>
      obtain ⟨h1, h2⟩ := List.append_eq_nil_iff.1 hfs
      simp [h1, h2, collapse]
    | cons f r =>
      have : m.frames ++ (a ++ b) = f :: (r ++ b) := by rw [← List.append_assoc, hfs]; rfl
      simp [this, collapse, collapseInto_append, Nat.add_assoc]

theorem live_liftM (m : PM) (rest : List Frame) (h : Live m) : Live (liftM m rest) := by
  intro hrun
  have hr : m.status = .running := by simpa using hrun
  obtain ⟨f, inner, hfr⟩ := h hr
  exact ⟨f, inner ++ rest, by simp [liftM, hr, hfr]⟩

theorem lift_addCalls (m : PM) (rest : List Frame) (cs : List CbCall) : (liftM m rest).addCalls cs = liftM (m.addCalls cs) rest := by
  by_cases h : m.status = .running <;> simp [liftM, h, PM.addCalls]
theorem lift_addDiags (m : PM) (rest : List Frame) (f : Frame) (cs : List DiagCls) : (liftM m rest).addDiags f cs = liftM (m.addDiags f cs) rest := by
  by_cases h : m.status = .running <;> simp [liftM, h, PM.addDiags]
theorem lift_reject (m : PM) (f : Frame) (inner rest : List Frame) (h : m.status = .running) :
    (liftM m rest).reject f (inner ++ rest) = liftM (m.reject f inner) rest := by
  rw [liftM_reject, liftM_running _ _ h]; rfl
theorem lift_rejectWith (m : PM) (f : Frame) (inner rest : List Frame) (c : DiagCls) (h : m.status = .running) :
    (liftM m rest).rejectWith f (inner ++ rest) c = liftM (m.rejectWith f inner c) rest := by
  rw [liftM_rejectWith, liftM_running _ _ h]; rfl
theorem lift_frames (m : PM) (g : Frame) (inner rest : List Frame) (h : m.status = .running) :
    ({ liftM m rest with frames := g :: (inner ++ rest) } : PM) = liftM { m with frames := g :: inner } rest := by
  simp [liftM, h]
theorem lift_vetoed (orc : Oracle) (m : PM) (rest : List Frame) (g : Frame) : vetoed orc (liftM m rest) g = liftM (vetoed orc m g) rest := by
  unfold vetoed
  repeat' split
  all_goals simp only [lift_addDiags, lift_addCalls]

theorem lift_push (m : PM) (g g' : Frame) (inner rest : List Frame) (h : m.status = .running) :
    ({ liftM m rest with frames := g :: g' :: (inner ++ rest), maxDepth := max (liftM m rest).maxDepth ((inner ++ rest).length + 2) } : PM) =
      liftM { m with frames := g :: g' :: inner, maxDepth := max m.maxDepth (inner.length + 2) } rest := by
  simp [liftM, h]; omega

/-- the shape `cfg_setopt` / `}` end in: ask the validation callback, reject on a veto, go on otherwise -/
theorem validThen_lift (orc : Oracle) (m : PM) (g g' h : Frame) (inner rest : List Frame) (hrun : m.status = .running) :
    (match runValid orc (liftM m rest) g with
      | none => liftM ((vetoed orc m g).reject g' inner) rest
      | some m1 => { m1 with frames := h :: (inner ++ rest) }) =
    liftM (match runValid orc m g with
      | none => (vetoed orc m g).reject g' inner
      | some m1 => { m1 with frames := h :: inner }) rest := by
  simp only [runValid_spec, liftM_k]
  cases validVerdict orc m.k g with
  | none => rfl
  | some cs => simp only [Option.map_some, lift_addCalls]; exact lift_frames _ _ _ _ (by simp [hrun])

/-- pushes `liftM · rest` outwards through the primitives, for a running machine (`hrun` in the context) -/
macro "lift_simp" : tactic =>
  `(tactic| simp only [liftM_k, lift_addCalls, lift_addDiags, lift_reject, lift_rejectWith, lift_frames, lift_push, lift_vetoed,
      handleDeprecated_spec, addCalls_status, addDiags_status, vetoed_status, *])

theorem storeValue_lift (orc : Oracle) (m : PM) (f : Frame) (inner rest : List Frame) (v : Bytes) (next : PState) (hrun : m.status = .running) :
    storeValue orc (liftM m rest) f (inner ++ rest) v next = liftM (storeValue orc m f inner v next) rest := by
  unfold storeValue
  lift_simp
  split
  · rfl
  split
  · rfl
  split
  · rfl
  exact validThen_lift orc _ _ _ _ inner rest (by simp [hrun])

theorem callFunction_lift (orc : Oracle) (m : PM) (f : Frame) (inner rest : List Frame) (hrun : m.status = .running) :
    callFunction orc (liftM m rest) f (inner ++ rest) = liftM (callFunction orc m f inner) rest := by
  unfold callFunction
  lift_simp
  repeat' (split <;> try simp only [])
  -- the include request sets another field as well
  simp [liftM, hrun]

theorem stepFn_lift (s : PState) (orc : Oracle) (m : PM) (f : Frame) (inner rest : List Frame) (tok : Tok) (hrun : m.status = .running)
    (hpop : ¬ (inner = [] ∧ s = .s0 ∧ tok = .rbrace)) :
    stepFn s orc (liftM m rest) f (inner ++ rest) tok = liftM (stepFn s orc m f inner tok) rest := by
  -- as in `stepFn_onto`: `lift_simp` moves `liftM · rest` to the outside of every leaf, the splits walk the common tree
  cases s with
  | s0 =>
    simp only [stepFn, step_s0]
    lift_simp
    cases tok with
    | rbrace =>
      cases inner with
      | nil => simp at hpop
      | cons p rs =>
        simp only [List.cons_append]
        split
        · lift_simp
        · lift_simp
          exact validThen_lift orc _ _ _ _ rs rest (by simp [hrun])
    | _ =>
      simp only []
      repeat' (split <;> try simp only [])
  | s4 =>
    simp only [stepFn, step_s4]
    cases tok with
    | rbrace => lift_simp; exact validThen_lift orc m f f _ inner rest hrun
    | _ => simp only []; lift_simp
  | s2 =>
    simp only [stepFn, step_s2, storeValue_lift _ _ _ _ _ _ _ hrun]
    lift_simp
    repeat' (split <;> try simp only [])
  | s5 =>
    simp only [stepFn, step_s5]
    lift_simp
    repeat' (split <;> try simp only [])
  | _ =>
    simp only [stepFn, step_s1, step_s3, step_s6, step_s7, step_s8, step_s9, step_s10, step_s11,
      step_s12, step_s13, step_s14, storeValue_lift _ _ _ _ _ _ _ hrun, callFunction_lift _ _ _ _ _ hrun]
    lift_simp
    repeat' (split <;> try simp only [])

theorem pstep_lift (orc : Oracle) (m : PM) (f : Frame) (inner rest : List Frame) (tok : Tok) (nl : Nat)
    (hrun : m.status = .running) (hfr : m.frames = f :: inner) (hin : tok.inner = true)
    (hpop : ¬ (inner = [] ∧ f.state = .s0 ∧ tok = .rbrace)) :
    pstep orc (liftM m rest) tok nl = liftM (pstep orc m tok nl) rest := by
  have hfr' : (liftM m rest).frames = f :: (inner ++ rest) := by simp [liftM_running _ _ hrun, hfr]
  rw [pstep_top orc m f inner tok nl hrun hfr, pstep_top orc (liftM m rest) f (inner ++ rest) tok nl (by simp [hrun]) hfr',
    lift_frames _ _ _ _ hrun, stepAt_inner _ _ _ _ _ hin, stepAt_inner _ _ _ _ _ hin]
  split
  · rfl
  · exact stepFn_lift _ orc _ (f.addLine nl) inner rest tok hrun hpop

end Confuse
