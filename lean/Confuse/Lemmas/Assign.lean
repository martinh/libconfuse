import Confuse.Lemmas.Parser
import Confuse.Spec.Items
import Confuse.Lemmas.Resolve
import Confuse.Lemmas.Store
/-!
# The tokens of an assignment item, one step each in closed form

Every equation here is `pstep_running` followed by the step function of the one state it is about.  The statements that
are general in a flag (`pstep_asg`: list or not, `=` or `+=`; `pstep_list_value`, `list_tail_steps`, `pstep_close_list`:
validation callback or not) are the ones the item theorems of `Props/C01A` and `Props/C14L` instantiate.
-/
namespace Confuse

/-- "this assignment replaces": RESET and MODIFIED set, as the `=` token does -/
def Opt.markReplace (o : Opt) : Opt := o.setFlags { o.flags with reset := true, modified := true }

/-- the frame a scalar assignment `name = v` leaves behind (`L` = the line it ends on) -/
def assignFrame (orc : Oracle) (k : Nat) (f : Frame) (r : OptRef) (o : Opt) (v : Bytes) (L : Nat) : Frame :=
  let out := setopt orc k (f.cfg.setLine L).info o.markReplace (some v)
  { f with cfg := (f.cfg.setOpt r out.opt).setLine L, opt := some r, state := .s0, numValues := f.numValues + 1 }

theorem pstep_name_resolved (orc : Oracle) (m : PM) (f : Frame) (rest : List Frame) (name : Bytes) (n1 : Nat) (r : OptRef) (o : Opt)
    (hrun : m.status = .running) (hfr : m.frames = f :: rest) (hst : f.state = .s0)
    (hnd : noPendingDeprecated f)
    (hres : (getoptPath f.cfg name).ref = some r) (hsil : (getoptPath f.cfg name).diags = [])
    (hget : f.cfg.getOpt r = some o) :
    pstep orc m (.str name) n1 =
      { m with frames := { f with cfg := f.cfg.setLine (f.cfg.line + n1), opt := some r, state := nameState o } :: rest } := by
  rw [pstep_running orc m f rest _ n1 hrun hfr rfl (.inr hst), hst]
  simp only [stepFn, step_s0, handleDeprecated_id _ _ (noPending_addLine f n1 hnd)]
  simp only [Frame.addLine, getoptPath_setLine, hres, hsil, addDiags_nil, getOpt_setLine, hget]
  rfl

theorem pstep_name (orc : Oracle) (m : PM) (f : Frame) (rest : List Frame) (name : Bytes) (n1 : Nat) (r : OptRef) (o : Opt)
    (hrun : m.status = .running) (hfr : m.frames = f :: rest) (hst : f.state = .s0)
    (hnd : noPendingDeprecated f)
    (hres : (getoptPath f.cfg name).ref = some r) (hsil : (getoptPath f.cfg name).diags = [])
    (hget : f.cfg.getOpt r = some o) (hty : o.ty ≠ .sec ∧ o.ty ≠ .func) :
    pstep orc m (.str name) n1 =
      { m with frames := { f with cfg := f.cfg.setLine (f.cfg.line + n1), opt := some r, state := .s1 } :: rest } := by
  rw [pstep_name_resolved orc m f rest name n1 r o hrun hfr hst hnd hres hsil hget]
  simp [nameState, hty.1, hty.2]

/-- the option as the assignment token leaves it: `=` marks "replace", `+=` "append" -/
def Opt.markAsg (o : Opt) (app : Bool) : Opt := o.setFlags { o.flags with reset := !app, modified := true }

theorem pstep_asg (orc : Oracle) (m : PM) (f : Frame) (rest : List Frame) (app : Bool) (n : Nat) (r : OptRef) (o : Opt)
    (hrun : m.status = .running) (hfr : m.frames = f :: rest) (hst : f.state = .s1) (hopt : f.opt = some r)
    (hget : f.cfg.getOpt r = some o) (happ : app = true → o.flags.list = true) :
    pstep orc m (asgTok app) n =
      { m with frames := { f with cfg := (f.cfg.setLine (f.cfg.line + n)).setOpt r (o.markAsg app),
                                  state := if o.flags.list then .s3 else .s2,
                                  numValues := if o.flags.list then 0 else f.numValues } :: rest } := by
  have hin : (asgTok app).inner = true ∧ (asgTok app).isComment = false := by cases app <;> exact ⟨rfl, rfl⟩
  rw [pstep_running orc m f rest _ n hrun hfr hin.1 (.inl hin.2), hst]
  -- `hopt` also on the right, where `{ f with … }` keeps `f.opt`: the step function has `some r` there by now
  simp only [stepFn, step_s1, show (f.addLine n).opt = some r from hopt, (getOpt_addLine f n r).trans hget, hopt]
  cases app
  · rfl
  · exact if_neg (by simp [happ rfl])

theorem pstep_lbrace_list (orc : Oracle) (m : PM) (f : Frame) (rest : List Frame) (n : Nat)
    (hrun : m.status = .running) (hfr : m.frames = f :: rest) (hst : f.state = .s3) :
    pstep orc m .lbrace n = { m with frames := { f with cfg := f.cfg.setLine (f.cfg.line + n), state := .s2 } :: rest } := by
  rw [pstep_running orc m f rest _ n hrun hfr rfl (.inl rfl), hst]
  rfl

theorem pstep_comma_list (orc : Oracle) (m : PM) (f : Frame) (rest : List Frame) (n : Nat)
    (hrun : m.status = .running) (hfr : m.frames = f :: rest) (hst : f.state = .s4) :
    pstep orc m .comma n = { m with frames := { f with cfg := f.cfg.setLine (f.cfg.line + n), state := .s2 } :: rest } := by
  rw [pstep_running orc m f rest _ n hrun hfr rfl (.inl rfl), hst]
  rfl

theorem pstep_value (orc : Oracle) (m : PM) (f : Frame) (rest : List Frame) (v : Bytes) (n : Nat) (r : OptRef) (o : Opt)
    (hrun : m.status = .running) (hfr : m.frames = f :: rest) (hst : f.state = .s2) (hopt : f.opt = some r)
    (hget : f.cfg.getOpt r = some o) :
    pstep orc m (.str v) n =
      storeValue orc { m with frames := f.addLine n :: rest } (f.addLine n) rest v (if o.flags.list then .s4 else .s0) := by
  rw [pstep_running orc m f rest _ n hrun hfr rfl (.inl rfl), hst]
  simp only [stepFn, step_s2, show (f.addLine n).opt = some r from hopt, (getOpt_addLine f n r).trans hget, Option.bind]

theorem storeValue_silent (orc : Oracle) (m : PM) (f : Frame) (rest : List Frame) (v : Bytes) (next : PState) (r : OptRef)
    (o o1 : Opt) (i : Nat) (hopt : f.opt = some r) (hcm : f.comment = none) (hget : f.cfg.getOpt r = some o)
    (hset : setopt orc m.k f.cfg.info o (some v) = ⟨o1, some i, [], []⟩)
    (hgo : o1.info.validCb = true → orc m.k (.valid o1.name (o1.vals.map Val.snap)) ≠ .fail) :
    storeValue orc m f rest v next =
      { m with frames := { f with cfg := f.cfg.setOpt r o1, state := next, numValues := f.numValues + 1 } :: rest,
               trace := (if o1.info.validCb then [CbCall.valid o1.name (o1.vals.map Val.snap)] else []) ++ m.trace } := by
  rw [storeValue_go orc m f rest v next r o o1 i [] [] hopt hget hset hgo, inheritComment_none { f with cfg := f.cfg.setOpt r o1 } hcm]
  rfl

theorem setopt_replace_plain (orc : Oracle) (k : Nat) (ci : CfgInfo) (o : Opt) (v : Bytes) (val : Val)
    (hty : o.ty = .int ∨ o.ty = .float ∨ o.ty = .bool ∨ o.ty = .str) (hpc : o.info.parseCb = false)
    (hnl : o.flags.list = false) (hnm : o.flags.multi = false)
    (hconv : convTok o.ty v = some val) (hfree : freeEvOpt o = []) :
    setopt orc k ci o.markReplace (some v) =
      ⟨.mk o.info { o.flags with reset := false, modified := true } o.subs [val] o.comment, some 0, [], []⟩ := by
  obtain ⟨cv, hcv, hs⟩ := setoptConvert_plain orc k o.markReplace v val hpc hconv
  rw [setopt_scalar orc k ci _ _ cv [] val hcv hs, Opt.base_of_reset (o := o.markReplace) rfl,
    show freeEvOpt o.markReplace = [] from (freeEvOpt_setFlags o _).trans hfree]
  rfl

def convToks (ty : Ty) : List Bytes → Option (List Val)
  | [] => some []
  | t :: ts => match convTok ty t, convToks ty ts with
    | some v, some vs => some (v :: vs)
    | _, _ => none

def Opt.appendVal (o : Opt) (val : Val) : Opt :=
  .mk o.info { o.flags with reset := false, modified := true } o.subs (o.base ++ [val]) o.comment

theorem setopt_list_plain (orc : Oracle) (k : Nat) (ci : CfgInfo) (o : Opt) (v : Bytes) (val : Val)
    (hty : o.ty = .int ∨ o.ty = .float ∨ o.ty = .bool ∨ o.ty = .str) (hpc : o.info.parseCb = false)
    (hl : o.flags.list = true) (hconv : convTok o.ty v = some val) (hfree : freeEvOpt o = []) :
    setopt orc k ci o (some v) = ⟨o.appendVal val, some o.base.length, [], []⟩ := by
  obtain ⟨cv, hcv, hs⟩ := setoptConvert_plain orc k o v val hpc hconv
  rw [setopt_scalar orc k ci _ _ cv [] val hcv hs]
  simp [Opt.appendVal, hl, hfree]

@[simp] theorem appendVal_reset (o : Opt) (v : Val) : (o.appendVal v).flags.reset = false := rfl

def Opt.appendVals (o : Opt) : List Val → Opt
  | [] => o
  | v :: vs => (o.appendVal v).appendVals vs

theorem appendVals_cons (o : Opt) (v : Val) (l : List Val) :
    o.appendVals (v :: l) = .mk o.info { o.flags with reset := false, modified := true } o.subs (o.base ++ v :: l) o.comment := by
  induction l generalizing o v with
  | nil => rfl
  | cons a as ih =>
    show (o.appendVal v).appendVals (a :: as) = _
    rw [ih, show (o.appendVal v).base = o.base ++ [v] from rfl, List.append_assoc]
    rfl

@[simp] theorem appendVals_info (o : Opt) (l : List Val) : (o.appendVals l).info = o.info := by
  cases l with
  | nil => rfl
  | cons v l => rw [appendVals_cons]; rfl

theorem appendVals_vals (o : Opt) (v : Val) (l : List Val) : (o.appendVals (v :: l)).vals = o.base ++ v :: l := by
  rw [appendVals_cons]; rfl

theorem freeEvVals_append (fc : Bool) (a b : List Val) : freeEvVals fc (a ++ b) = freeEvVals fc a ++ freeEvVals fc b := by
  induction a with
  | nil => rfl
  | cons x xs ih => simp [freeEvVals, ih]

structure Opt.PlainList (o : Opt) (b : Bool) : Prop where
  ty : o.ty = .int ∨ o.ty = .float ∨ o.ty = .bool ∨ o.ty = .str
  parseCb : o.info.parseCb = false
  validCb : o.info.validCb = b
  list : o.flags.list = true
  free : freeEvOpt o = []

theorem Opt.PlainList.markAsg {o : Opt} {b : Bool} (h : o.PlainList b) (app : Bool) : (o.markAsg app).PlainList b :=
  ⟨h.ty, h.parseCb, h.validCb, h.list, (freeEvOpt_setFlags o _).trans h.free⟩

theorem Opt.PlainList.appendVal {o : Opt} {b : Bool} (h : o.PlainList b) {t : Bytes} {val : Val} (hc : convTok o.ty t = some val) :
    (o.appendVal val).PlainList b := by
  refine ⟨h.ty, h.parseCb, h.validCb, h.list, ?_⟩
  obtain ⟨info, fl, subs, vals, cm⟩ := o
  have hf := h.free
  simp only [freeEvOpt, Opt.appendVal, Opt.base, Opt.info, Opt.flags, Opt.vals, Opt.ty] at hf hc ⊢
  have h1 := (convTok_leaf _ t val hc).2 info.freeCb
  rw [freeEvVals_append]
  by_cases hr : fl.reset = true
  · simp [hr, freeEvVals, h1]
  · simp [hr, hf, freeEvVals, h1]

theorem pstep_list_value (orc : Oracle) (b : Bool) (m : PM) (f : Frame) (rest : List Frame) (v : Bytes) (n : Nat) (r : OptRef) (o : Opt)
    (val : Val) (hrun : m.status = .running) (hfr : m.frames = f :: rest) (hst : f.state = .s2) (hopt : f.opt = some r)
    (hcm : f.comment = none) (hget : f.cfg.getOpt r = some o) (ho : o.PlainList b) (hconv : convTok o.ty v = some val)
    (hgo : b = true → orc m.k (CbCall.valid o.name ((o.appendVal val).vals.map Val.snap)) ≠ .fail) :
    pstep orc m (.str v) n =
      { m with frames := { f with cfg := (f.cfg.setLine (f.cfg.line + n)).setOpt r (o.appendVal val),
                                  state := .s4, numValues := f.numValues + 1 } :: rest,
               trace := (if b then [CbCall.valid o.name ((o.appendVal val).vals.map Val.snap)] else []) ++ m.trace } := by
  rw [pstep_value orc m f rest v n r o hrun hfr hst hopt hget, if_pos ho.list,
    storeValue_silent orc { m with frames := f.addLine n :: rest } (f.addLine n) rest v .s4 r o (o.appendVal val) o.base.length hopt hcm ((getOpt_addLine f n r).trans hget)
      (setopt_list_plain orc _ _ o v val ho.ty ho.parseCb ho.list hconv ho.free) (fun h => hgo (ho.validCb.symm.trans h))]
  rw [show (o.appendVal val).info.validCb = b from ho.validCb]
  rfl

def seqLines : List (Nat × Bytes × Nat) → Nat
  | [] => 0
  | (c, _, n) :: t => c + n + seqLines t

/-- the invocations (newest first) the values `vals`, stored one after the other into `o`, cause -/
def validTrace : Opt → List Val → List CbCall
  | _, [] => []
  | o, v :: vs => validTrace (o.appendVal v) vs ++ [CbCall.valid o.name ((o.appendVal v).vals.map Val.snap)]

/-- none of the validations in `validTrace o vals` vetoes; `k`: the number of invocations so far, at which the oracle is asked -/
def validsOk (orc : Oracle) : Nat → Opt → List Val → Prop
  | _, _, [] => True
  | k, o, v :: vs => orc k (CbCall.valid o.name ((o.appendVal v).vals.map Val.snap)) ≠ .fail ∧ validsOk orc (k + 1) (o.appendVal v) vs

theorem validTrace_length (o : Opt) (vals : List Val) : (validTrace o vals).length = vals.length := by
  induction vals generalizing o with
  | nil => rfl
  | cons v vs ih => simp [validTrace, ih]

theorem list_tail_steps (orc : Oracle) (b : Bool) : ∀ (vs : List (Nat × Bytes × Nat)) (vals : List Val) (m : PM) (f : Frame)
    (rest : List Frame) (r : OptRef) (o : Opt),
    m.status = .running → m.frames = f :: rest → f.state = .s4 → f.opt = some r → f.comment = none →
    f.cfg.getOpt r = some o → o.PlainList b → convToks o.ty (vs.map (·.2.1)) = some vals →
    (b = true → validsOk orc m.k o vals) →
    parseToks orc m (flatSeq false vs) =
      { m with frames := { f with cfg := (f.cfg.setOpt r (o.appendVals vals)).setLine (f.cfg.line + seqLines vs),
                                  numValues := f.numValues + vs.length } :: rest,
               trace := (if b then validTrace o vals else []) ++ m.trace } := by
  intro vs
  induction vs with
  | nil =>
    intro vals m f rest r o _ hfr _ _ _ hget _ hcv _
    cases hcv
    rw [Opt.appendVals, setOpt_self _ _ _ hget, seqLines, Nat.add_zero, setLine_same]
    cases b <;> exact (setFrames_self m _ hfr).symm
  | cons x xs ih =>
    intro vals m f rest r o hrun hfr hst hopt hcm hget ho hcv hok
    obtain ⟨c, t, n⟩ := x
    simp only [List.map, convToks] at hcv
    split at hcv
    · rename_i val vals' h1 h2
      cases hcv
      let F0 : Frame := { f with cfg := f.cfg.setLine (f.cfg.line + c), state := .s2 }
      let F : Frame := { f with cfg := (f.cfg.setLine (f.cfg.line + c + n)).setOpt r (o.appendVal val), state := .s4,
                                numValues := f.numValues + 1 }
      simp only [flatSeq, parseToks_cons]
      rw [pstep_comma_list orc m f rest c hrun hfr hst,
        pstep_list_value orc b { m with frames := F0 :: rest } F0 rest t n r o val hrun rfl rfl hopt hcm
          ((getOpt_setLine _ _ r).trans hget) ho h1 (fun hb => (hok hb).1)]
      refine (ih vals' { m with frames := F :: rest, trace := (if b then [.valid o.name ((o.appendVal val).vals.map Val.snap)] else []) ++ m.trace }
        F rest r (o.appendVal val) hrun rfl rfl hopt hcm (getOpt_setOpt _ r o _ ((getOpt_setLine _ _ r).trans hget)) (ho.appendVal h1) h2
        (fun hb => by subst hb; exact (hok rfl).2)).trans ?_
      simp only [F, setOpt_setLine, setOpt_setOpt, setLine_setLine, setLine_line, Opt.appendVals, seqLines, List.length_cons,
        validTrace, hst]
      cases b <;> simp [Nat.add_assoc, Nat.add_comm 1]
    · cases hcv

theorem list_tail_loop (orc : Oracle) : ∀ (vs : List (Nat × Bytes × Nat)) (vals : List Val) (m : PM) (f : Frame) (rest : List Frame)
    (r : OptRef) (o : Opt),
    m.status = .running → m.frames = f :: rest → f.state = .s4 → f.opt = some r → f.comment = none →
    f.cfg.getOpt r = some o →
    (o.ty = .int ∨ o.ty = .float ∨ o.ty = .bool ∨ o.ty = .str) → o.info.parseCb = false → o.info.validCb = false →
    o.flags.list = true → freeEvOpt o = [] →
    convToks o.ty (vs.map (·.2.1)) = some vals →
    parseToks orc m (flatSeq false vs) =
      { m with frames := { f with cfg := (f.cfg.setOpt r (o.appendVals vals)).setLine (f.cfg.line + seqLines vs),
                                  numValues := f.numValues + vs.length } :: rest } :=
  fun vs vals m f rest r o hrun hfr hst hopt hcm hget hty hpc hvc hl hfree hcv =>
    list_tail_steps orc false vs vals m f rest r o hrun hfr hst hopt hcm hget ⟨hty, hpc, hvc, hl, hfree⟩ hcv nofun

theorem pstep_close_list (orc : Oracle) (b : Bool) (m : PM) (f : Frame) (rest : List Frame) (n : Nat) (r : OptRef) (o : Opt)
    (hrun : m.status = .running) (hfr : m.frames = f :: rest) (hst : f.state = .s4) (hopt : f.opt = some r)
    (hget : f.cfg.getOpt r = some o) (hvc : o.info.validCb = b)
    (hgo : b = true → orc m.k (CbCall.valid o.name (o.vals.map Val.snap)) ≠ .fail) :
    pstep orc m .rbrace n =
      { m with frames := { f with cfg := f.cfg.setLine (f.cfg.line + n), state := .s0 } :: rest,
               trace := (if b then [CbCall.valid o.name (o.vals.map Val.snap)] else []) ++ m.trace } := by
  rw [pstep_running orc m f rest _ n hrun hfr rfl (.inl rfl), hst]
  simp only [stepFn, step_s4, runValid_spec, validVerdict, show (f.addLine n).opt = some r from hopt, (getOpt_addLine f n r).trans hget, hvc, hopt]
  cases b
  · rfl
  · simp only [if_true, show ({ m with frames := f.addLine n :: rest } : PM).k = m.k from rfl, hgo rfl, if_false]; rfl

/-- `reset` is set after `=` (the option is emptied: its defaults go) and clear after `+=` -/
theorem pstep_close_empty (orc : Oracle) (m : PM) (f : Frame) (rest : List Frame) (n : Nat) (r : OptRef) (o : Opt)
    (hrun : m.status = .running) (hfr : m.frames = f :: rest) (hst : f.state = .s2) (hopt : f.opt = some r)
    (hnv : f.numValues = 0) (hget : f.cfg.getOpt r = some o) (hl : o.flags.list = true) (hfree : freeEvOpt o = []) :
    pstep orc m .rbrace n =
      { m with frames := { f with cfg := (f.cfg.setLine (f.cfg.line + n)).setOpt r (if o.flags.reset then (freeValue o).1 else o),
                                  state := .s0 } :: rest } := by
  rw [pstep_running orc m f rest _ n hrun hfr rfl (.inl rfl), hst]
  simp only [stepFn, step_s2, show (f.addLine n).opt = some r from hopt, (getOpt_addLine f n r).trans hget, Option.bind, hl, if_true,
    show (f.addLine n).numValues = 0 from hnv, beq_self_eq_true, Bool.true_and, hopt, hnv]
  by_cases hr : o.flags.reset = true
  · simp only [hr, if_true, freeValue, hfree, addCalls_nil]; rfl
  · rw [if_neg hr, if_neg hr, setOpt_self _ _ _ ((getOpt_setLine _ _ r).trans hget)]; rfl

end Confuse
