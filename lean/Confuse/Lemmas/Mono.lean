import Confuse.Lemmas.Onto
/-!
# The logs only grow

Every step of the token machine keeps the callback trace and the diagnostics it found as a suffix of
what it leaves: an invocation or a diagnostic, once made, is never retracted or reordered.
-/
namespace Confuse

/-- `b` extends `a` (newest-first lists: `a` is a suffix of `b`) -/
def Ext {α} (a b : List α) : Prop := ∃ c, b = c ++ a

theorem Ext.refl {α} (a : List α) : Ext a a := ⟨[], rfl⟩
theorem Ext.trans {α} {a b c : List α} (h1 : Ext a b) (h2 : Ext b c) : Ext a c := by
  obtain ⟨x, rfl⟩ := h1; obtain ⟨y, rfl⟩ := h2; exact ⟨y ++ x, by simp⟩
theorem Ext.app {α} (a c : List α) : Ext a (c ++ a) := ⟨c, rfl⟩

def Grows (m m' : PM) : Prop := Ext m.trace m'.trace ∧ Ext m.diags m'.diags

theorem Grows.refl (m : PM) : Grows m m := ⟨Ext.refl _, Ext.refl _⟩
theorem Grows.trans {a b c : PM} (h1 : Grows a b) (h2 : Grows b c) : Grows a c := ⟨h1.1.trans h2.1, h1.2.trans h2.2⟩

theorem Ext.cons' {α} {t u : List α} (a : α) (h : Ext t u) : Ext t (a :: u) := by
  obtain ⟨c, rfl⟩ := h; exact ⟨a :: c, by simp⟩

theorem pstep_grows (orc : Oracle) (m : PM) (tok : Tok) (nl : Nat) : Grows m (pstep orc m tok nl) := by
  rw [pstep_fresh]; exact ⟨⟨_, rfl⟩, ⟨_, rfl⟩⟩

theorem parseToks_grows (orc : Oracle) (ts : List (Tok × Nat)) : ∀ m, Grows m (parseToks orc m ts) := fun m =>
  parseToks_preserves (Q := Grows m) orc (fun x t n h => h.trans (pstep_grows orc x t n)) ts m (Grows.refl m)

end Confuse
