import Confuse.Lemmas.Reads
/-!
# The line counter is only an accumulator

Starting the scanner with a different line count changes nothing but the count it returns.
-/
namespace Confuse

theorem lexInitial_bump (env : Env) (k : Nat) : ∀ (x : Bytes) (nl : Nat), lexInitial env (nl + k) x = (lexInitial env nl x).bump k :=
  fun x nl => (lexInitial_reads env x).bump nl k

theorem lexInitial_tok_rest (env : Env) (x : Bytes) (nl : Nat) :
    (lexInitial env nl x).tok = (lexInitial env 0 x).tok ∧ (lexInitial env nl x).rest = (lexInitial env 0 x).rest := by
  have := lexInitial_bump env nl x 0
  rw [Nat.zero_add] at this
  rw [this]
  exact ⟨rfl, rfl⟩

end Confuse
