import Confuse.Model.Store
/-!
# What the store operations do: `dropDefaults` in closed form, the three ways `cfg_setopt` ends, what it never
touches (`SameDecl`), its closed form on a value that converts to a scalar, and `cfg_init_defaults` (`mkOpt_cases`).
The proofs about `setopt` elsewhere rest on these and do not unfold it.
-/
namespace Confuse

/-- what an option holds before the next stored value goes in: nothing if it is still pristine or was marked
"replace", else its values -/
def Opt.base (o : Opt) : List Val := if o.flags.reset then [] else o.vals

@[simp] theorem info_mk (i : OptInfo) (f : Flags) (s : List Decl) (v : List Val) (c : Option Bytes) : (Opt.mk i f s v c).info = i := rfl
@[simp] theorem Opt.flags_mk (i : OptInfo) (f : Flags) (s : List Decl) (v : List Val) (c : Option Bytes) : (Opt.mk i f s v c).flags = f := rfl
@[simp] theorem Opt.subs_mk (i : OptInfo) (f : Flags) (s : List Decl) (v : List Val) (c : Option Bytes) : (Opt.mk i f s v c).subs = s := rfl
@[simp] theorem vals_mk (i : OptInfo) (f : Flags) (s : List Decl) (v : List Val) (c : Option Bytes) : (Opt.mk i f s v c).vals = v := rfl
@[simp] theorem Opt.comment_mk (i : OptInfo) (f : Flags) (s : List Decl) (v : List Val) (c : Option Bytes) : (Opt.mk i f s v c).comment = c := rfl
@[simp] theorem Opt.flags_setFlags (o : Opt) (f : Flags) : (o.setFlags f).flags = f := rfl
theorem freeEvOpt_setFlags (o : Opt) (fl : Flags) : freeEvOpt (o.setFlags fl) = freeEvOpt o := by cases o; rfl
theorem name_mk (i : OptInfo) (f : Flags) (s : List Decl) (v : List Val) (c : Option Bytes) : (Opt.mk i f s v c).name = i.name := rfl

theorem Opt.base_of_reset {o : Opt} (h : o.flags.reset = true) : o.base = [] := by simp [Opt.base, h]
theorem Opt.base_of_not_reset {o : Opt} (h : o.flags.reset = false) : o.base = o.vals := by simp [Opt.base, h]

theorem Opt.base_length_le (o : Opt) : o.base.length ≤ o.vals.length := by
  unfold Opt.base; split <;> simp

theorem Flags.with_reset_false {f : Flags} (h : f.reset = false) : { f with reset := false } = f := by
  cases f; cases h; rfl

theorem dropDefaults_eq (o : Opt) : dropDefaults o =
    (.mk o.info { o.flags with reset := false } o.subs o.base o.comment, if o.flags.reset then freeEvOpt o else []) := by
  obtain ⟨i, f, s, vs, c⟩ := o
  unfold dropDefaults Opt.base
  by_cases h : f.reset = true
  · simp [h, freeValue, Opt.flags, Opt.setFlags, Opt.info, Opt.subs, Opt.vals, Opt.comment]
  · simp [h, Flags.with_reset_false (Bool.not_eq_true _ ▸ h)]

theorem dropDefaults_of_not_reset (o : Opt) (h : o.flags.reset = false) : dropDefaults o = (o, []) := by
  simp [dropDefaults, h]

theorem dropDefaults_info (o : Opt) : (dropDefaults o).1.info = o.info := by rw [dropDefaults_eq]; rfl
theorem dropDefaults_ty (o : Opt) : (dropDefaults o).1.ty = o.ty := by rw [dropDefaults_eq]; rfl
theorem dropDefaults_subs (o : Opt) : (dropDefaults o).1.subs = o.subs := by rw [dropDefaults_eq]; rfl
theorem dropDefaults_vals (o : Opt) : (dropDefaults o).1.vals = o.base := by rw [dropDefaults_eq]; rfl
theorem dropDefaults_comment (o : Opt) : (dropDefaults o).1.comment = o.comment := by rw [dropDefaults_eq]; rfl
theorem dropDefaults_flags (o : Opt) : (dropDefaults o).1.flags = { o.flags with reset := false } := by
  rw [dropDefaults_eq]; rfl

/-- the existing instance that the title `v` of a titled section selects -/
def foundTitle (ci : CfgInfo) (o : Opt) (v : Option Bytes) : Option Nat :=
  if (o.base.length == 0 || o.flags.multi || o.flags.list) && o.ty == .sec && o.flags.title then
    (match v with | some t => findTitle ci.flags.nocase t o.base 0 | none => none)
  else none

theorem foundTitle_nonsec (ci : CfgInfo) (o : Opt) (v : Option Bytes) (h : o.ty ≠ .sec) : foundTitle ci o v = none := by
  simp [foundTitle, h]

theorem foundTitle_some {ci : CfgInfo} {o : Opt} {v : Option Bytes} {j : Nat} (h : foundTitle ci o v = some j) :
    o.ty = .sec ∧ o.flags.title = true ∧ ∃ t, v = some t ∧ findTitle ci.flags.nocase t o.base 0 = some j := by
  unfold foundTitle at h
  split at h
  · rename_i hc
    simp only [Bool.and_eq_true, beq_iff_eq] at hc
    cases v with
    | none => cases h
    | some t => exact ⟨hc.1.2, hc.2, t, rfl, h⟩
  · cases h

/-- the option and the result of a completed `cfg_setopt` that wrote cell `found` (`none`: a new cell) -/
def setoptDone (ci : CfgInfo) (o : Opt) (p : Conv × List CbCall) (v : Option Bytes) (found : Option Nat) : SetOut :=
  let st := setoptStore ci (dropDefaults o).1 p.1 v (o.base.length == 0 || o.flags.multi || o.flags.list) found
  ⟨.mk o.info { o.flags with reset := false, modified := true } o.subs st.2.1 o.comment, some st.1, [],
    p.2 ++ (dropDefaults o).2 ++ st.2.2⟩

theorem setopt_error (orc : Oracle) (k : Nat) (ci : CfgInfo) (o : Opt) (v : Option Bytes) (e : List DiagCls × List CbCall)
    (h : setoptConvert orc k o v = .error e) : setopt orc k ci o v = ⟨o, none, e.1, e.2⟩ := by
  unfold setopt; rw [h]

/-- `cfg_setopt` once the text is converted: a titled section that has instances needs a title; a title that is
there already may be forbidden; otherwise the cell is written -/
theorem setopt_ok (orc : Oracle) (k : Nat) (ci : CfgInfo) (o : Opt) (v : Option Bytes) (p : Conv × List CbCall)
    (h : setoptConvert orc k o v = .ok p) :
    setopt orc k ci o v =
      if (o.base.length == 0 || o.flags.multi || o.flags.list) && o.ty == .sec && o.flags.title && o.base.length != 0 && v.isNone then
        ⟨(dropDefaults o).1, none, [], p.2 ++ (dropDefaults o).2⟩
      else if (foundTitle ci o v).isSome && o.flags.noTitleDupes then
        ⟨(dropDefaults o).1, none, [.dupTitle], p.2 ++ (dropDefaults o).2⟩
      else setoptDone ci o p v (foundTitle ci o v) := by
  unfold setopt; rw [h]
  simp only [dropDefaults_ty, dropDefaults_vals, dropDefaults_flags, dropDefaults_info, dropDefaults_subs, dropDefaults_comment]
  rfl

/-- the text does not convert and the option is untouched; the store is refused, after the defaults were dropped; or a
cell is written -/
theorem setopt_cases (orc : Oracle) (k : Nat) (ci : CfgInfo) (o : Opt) (v : Option Bytes) :
    (∃ e, setoptConvert orc k o v = .error e ∧ setopt orc k ci o v = ⟨o, none, e.1, e.2⟩) ∨
    (∃ p ds, setoptConvert orc k o v = .ok p ∧ o.ty = .sec ∧ o.flags.title = true ∧ (ds = [] → v = none) ∧
      setopt orc k ci o v = ⟨(dropDefaults o).1, none, ds, p.2 ++ (dropDefaults o).2⟩) ∨
    (∃ p, setoptConvert orc k o v = .ok p ∧ setopt orc k ci o v = setoptDone ci o p v (foundTitle ci o v)) := by
  cases hcv : setoptConvert orc k o v with
  | error e => exact .inl ⟨e, rfl, setopt_error _ _ _ _ _ _ hcv⟩
  | ok p =>
    rw [setopt_ok _ _ _ _ _ _ hcv]
    split
    · rename_i h
      simp only [Bool.and_eq_true, beq_iff_eq, Option.isNone_iff_eq_none] at h
      exact .inr (.inl ⟨p, [], rfl, h.1.1.1.2, h.1.1.2, fun _ => h.2, rfl⟩)
    · split
      · rename_i h
        obtain ⟨j, hj⟩ := Option.isSome_iff_exists.1 (Bool.and_eq_true_iff.1 h).1
        exact .inr (.inl ⟨p, [.dupTitle], rfl, (foundTitle_some hj).1, (foundTitle_some hj).2.1, nofun, rfl⟩)
      · exact .inr (.inr ⟨p, rfl, rfl⟩)

theorem setopt_res_some (orc : Oracle) (k : Nat) (ci : CfgInfo) (o : Opt) (v : Option Bytes)
    (h : (setopt orc k ci o v).res ≠ none) : ∃ p, setopt orc k ci o v = setoptDone ci o p v (foundTitle ci o v) := by
  rcases setopt_cases orc k ci o v with ⟨_, -, e⟩ | ⟨_, _, -, -, -, -, e⟩ | ⟨p, -, e⟩
  · rw [e] at h; exact absurd rfl h
  · rw [e] at h; exact absurd rfl h
  · exact ⟨p, e⟩

theorem setopt_modified (orc : Oracle) (k : Nat) (ci : CfgInfo) (o : Opt) (v : Option Bytes) :
    (setopt orc k ci o v).res ≠ none → (setopt orc k ci o v).opt.flags.modified = true := by
  intro h
  obtain ⟨p, e⟩ := setopt_res_some orc k ci o v h
  rw [e]; rfl

def Flags.base (f : Flags) : Flags := { f with reset := false, modified := false }

def SameDecl (o r : Opt) : Prop := r.info = o.info ∧ r.subs = o.subs ∧ r.flags.base = o.flags.base

theorem dropDefaults_sameDecl (o : Opt) : SameDecl o (dropDefaults o).1 := by
  rw [dropDefaults_eq]; exact ⟨rfl, rfl, rfl⟩

theorem setopt_sameDecl (orc : Oracle) (k : Nat) (ci : CfgInfo) (o : Opt) (v : Option Bytes) :
    SameDecl o (setopt orc k ci o v).opt := by
  rcases setopt_cases orc k ci o v with ⟨_, -, h⟩ | ⟨_, _, -, -, -, -, h⟩ | ⟨_, -, h⟩ <;> rw [h]
  · exact ⟨rfl, rfl, rfl⟩
  · exact dropDefaults_sameDecl o
  · exact ⟨rfl, rfl, rfl⟩

theorem setopt_flags_list (orc : Oracle) (k : Nat) (ci : CfgInfo) (o : Opt) (v : Option Bytes) :
    (setopt orc k ci o v).opt.flags.list = o.flags.list :=
  (congrArg Flags.list (setopt_sameDecl orc k ci o v).2.2 :)

theorem setoptConvert_sec (orc : Oracle) (k : Nat) (o : Opt) (t : Option Bytes) (ho : o.ty = .sec) :
    setoptConvert orc k o t = .ok (.sec, []) := by
  unfold setoptConvert; simp [ho]

theorem setoptConvert_int_cb (orc : Oracle) (k : Nat) (o : Opt) (t : Option Bytes) (hty : o.ty = .int) (hcb : o.info.parseCb = true) :
    setoptConvert orc k o t =
      match orc k (.parse o.name t) with
      | .int n => .ok (.int n, [.parse o.name t])
      | _ => .error ([.callback], [.parse o.name t]) := by
  simp only [setoptConvert, hty, hcb, if_true]
  rfl

/-- a section option as the parser meets it -/
def secOpt (o : Opt) : Prop := o.ty = .sec ∧ o.flags.reset = false

/-- `cfg_setopt` on an untitled multi section option: one more instance, built from the option's own declarations -/
theorem setopt_new_untitled (orc : Oracle) (k : Nat) (ci : CfgInfo) (o : Opt) (ho : secOpt o) (hm : o.flags.multi = true)
    (ht : o.flags.title = false) :
    setopt orc k ci o none =
      ⟨Opt.mk o.info { o.flags with modified := true } o.subs (o.vals ++ [.sec (mkSection ci o none)]) o.comment, some o.vals.length, [], []⟩ := by
  rw [setopt_ok _ _ _ _ _ _ (setoptConvert_sec orc k o none ho.1)]
  simp [foundTitle, setoptDone, setoptStore, Opt.base_of_not_reset ho.2, ht, hm, dropDefaults_of_not_reset o ho.2,
    ho.2]

theorem setopt_single_any (orc : Oracle) (k : Nat) (ci : CfgInfo) (o : Opt) (t : Option Bytes) (s : Cfg) (ho : secOpt o)
    (hm : o.flags.multi = false) (hl : o.flags.list = false) (hv : o.vals = [.sec s]) :
    setopt orc k ci o t = ⟨Opt.mk o.info { o.flags with modified := true } o.subs [.sec s] o.comment, some 0, [], []⟩ := by
  rw [setopt_ok _ _ _ _ _ _ (setoptConvert_sec orc k o t ho.1)]
  simp [foundTitle, setoptDone, setoptStore, Opt.base_of_not_reset ho.2, hm, hl, hv, listSet, dropDefaults_of_not_reset o ho.2,
    ho.2]

def Conv.scalar : Conv → Option Val
  | .int n => some (.int n) | .flt b => some (.flt b) | .bool b => some (.bool b) | .str s => some (.str (some s))
  | _ => none

theorem setoptStore_scalar (ci : CfgInfo) (o1 : Opt) (cv : Conv) (v : Option Bytes) (app : Bool) (val : Val)
    (h : cv.scalar = some val) :
    setoptStore ci o1 cv v app none =
      (if app then o1.vals.length else 0, if app then o1.vals ++ [val] else listSet o1.vals 0 val, []) := by
  unfold setoptStore
  cases cv <;> cases h <;> cases app <;> simp

theorem setoptConvert_plain (orc : Oracle) (k : Nat) (o : Opt) (v : Bytes) (val : Val)
    (hpc : o.info.parseCb = false) (hconv : convTok o.ty v = some val) :
    ∃ cv, setoptConvert orc k o (some v) = .ok (cv, []) ∧ cv.scalar = some val := by
  unfold convTok at hconv
  unfold setoptConvert
  split at hconv <;> simp only [*, Bool.false_eq_true, if_false]
  · cases hc : convInt v <;> rw [hc] at hconv <;> cases hconv; exact ⟨_, rfl, rfl⟩
  · cases hc : convFloat v <;> rw [hc] at hconv <;> cases hconv; exact ⟨_, rfl, rfl⟩
  · cases hb : convBool v <;> rw [hb] at hconv <;> cases hconv; exact ⟨_, rfl, rfl⟩
  · cases hconv; exact ⟨_, rfl, rfl⟩
  · cases hconv

/-- a list, a multi option and an option that holds nothing get a new cell; any other has its one cell overwritten -/
theorem setopt_scalar (orc : Oracle) (k : Nat) (ci : CfgInfo) (o : Opt) (v : Option Bytes) (cv : Conv) (cs : List CbCall)
    (val : Val) (hcv : setoptConvert orc k o v = .ok (cv, cs)) (hs : cv.scalar = some val) :
    setopt orc k ci o v =
      ⟨.mk o.info { o.flags with reset := false, modified := true } o.subs
        (if o.base.length == 0 || o.flags.multi || o.flags.list then o.base ++ [val] else listSet o.base 0 val) o.comment,
       some (if o.base.length == 0 || o.flags.multi || o.flags.list then o.base.length else 0), [],
       cs ++ if o.flags.reset then freeEvOpt o else []⟩ := by
  have hns : o.ty ≠ .sec := fun h => by rw [setoptConvert_sec orc k o v h] at hcv; cases hcv; cases hs
  rcases setopt_cases orc k ci o v with ⟨e, he, -⟩ | ⟨p, ds, -, hsec, -⟩ | ⟨p, hp, h⟩
  · rw [hcv] at he; cases he
  · exact absurd hsec hns
  · rw [hcv] at hp; cases hp
    rw [h, foundTitle_nonsec _ _ _ hns, setoptDone, setoptStore_scalar _ _ _ _ _ _ hs, dropDefaults_vals, dropDefaults_eq]
    simp

def Val.leaf : Val → Bool
  | .sec _ => false
  | _ => true

theorem convTok_leaf (ty : Ty) (tok : Bytes) (v : Val) (h : convTok ty tok = some v) : v.leaf = true ∧ ∀ fc, freeEvVal fc v = [] := by
  unfold convTok at h
  cases ty <;> simp only [] at h
  · split at h <;> simp at h; subst h; exact ⟨rfl, fun _ => rfl⟩
  · split at h <;> simp at h; subst h; exact ⟨rfl, fun _ => rfl⟩
  · simp at h; subst h; exact ⟨rfl, fun _ => rfl⟩
  · simp only [Option.map_eq_some_iff] at h; obtain ⟨b, _, rfl⟩ := h; exact ⟨rfl, fun _ => rfl⟩
  all_goals simp at h

structure Opt.PlainOf (o : Opt) (info : OptInfo) (flags : Flags) (subs : List Decl) : Prop where
  info : o.info = info
  subs : o.subs = subs
  dep : o.flags.deprecated = flags.deprecated
  leaf : o.vals.all Val.leaf = true

/-- what `cfg_init_defaults` makes of a declaration: the one instance of a single section, or - whatever the context -
an option without section cells (`by_cases`, not `split`: `split` over this body costs ten times as much) -/
theorem mkOpt_cases (ci : CfgInfo) (info : OptInfo) (flags : Flags) (subs : List Decl) :
    (∀ ci', mkOpt ci' (.mk info flags subs) =
      .mk info { flags with modified := true, definit := true } subs
        [.sec (.mk (sectionInfo ci' info.name flags none) (mkOpts (sectionInfo ci' info.name flags none) subs))] none) ∨
    ((∀ ci', mkOpt ci' (.mk info flags subs) = mkOpt ci (.mk info flags subs)) ∧
      (mkOpt ci (.mk info flags subs)).PlainOf info flags subs) := by
  by_cases h1 : info.simple = true
  · refine .inr ⟨fun _ => by rw [mkOpt, mkOpt, if_pos h1, if_pos h1], ?_⟩
    rw [mkOpt, if_pos h1]
    exact ⟨rfl, rfl, rfl, by cases info.ty <;> rfl⟩
  by_cases h2 : flags.nodefault = true
  · refine .inr ⟨fun _ => by rw [mkOpt, mkOpt, if_neg h1, if_neg h1, if_pos h2, if_pos h2], ?_⟩
    rw [mkOpt, if_neg h1, if_pos h2]
    exact ⟨rfl, rfl, rfl, rfl⟩
  by_cases h3 : (info.ty != .sec) = true
  · refine .inr ⟨fun _ => by rw [mkOpt, mkOpt, if_neg h1, if_neg h1, if_neg h2, if_neg h2, if_pos h3, if_pos h3], ?_⟩
    rw [mkOpt, if_neg h1, if_neg h2, if_pos h3]
    by_cases h4 : (flags.list || info.defList.isSome) = true
    · simp only [h4, if_true]
      cases hd : info.defList with
      | none => exact ⟨rfl, rfl, rfl, rfl⟩
      | some toks =>
        refine ⟨rfl, rfl, rfl, ?_⟩
        have hl : (toks.filterMap (convTok info.ty)).all Val.leaf = true :=
          List.all_eq_true.2 fun v hv => by
            obtain ⟨t, _, ht⟩ := List.mem_filterMap.1 hv
            exact (convTok_leaf _ t v ht).1
        show List.all (if _ then _ else _) _ = true
        split
        · rfl
        · split
          · exact hl
          · exact List.all_eq_true.2 fun v hv =>
              List.all_eq_true.1 hl v (List.mem_reverse.1 (List.mem_of_mem_take hv))
    · simp only [h4]
      exact ⟨rfl, rfl, rfl, by cases info.ty <;> rfl⟩
  · by_cases h5 : (!flags.multi) = true
    · exact .inl fun _ => by rw [mkOpt, if_neg h1, if_neg h2, if_neg h3, if_pos h5]
    · refine .inr ⟨fun _ => by rw [mkOpt, mkOpt, if_neg h1, if_neg h1, if_neg h2, if_neg h2, if_neg h3, if_neg h3, if_neg h5, if_neg h5], ?_⟩
      rw [mkOpt, if_neg h1, if_neg h2, if_neg h3, if_neg h5]
      exact ⟨rfl, rfl, rfl, rfl⟩
end Confuse
