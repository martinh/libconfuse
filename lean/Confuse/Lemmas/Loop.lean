import Confuse.Lemmas.Srcs
import Confuse.Lemmas.Lexer
/-!
# The parse loop, one iteration at a time

`loopNext`: one iteration of `parseLoopFrom` in start condition INITIAL as a function - at the end of an included
source pop it and restore the includer's position, otherwise hand the next token to the token machine and open the
file it may have asked for (`afterTok`).  `Scan`: the tokens the loop takes from one source, without fuel.
-/
namespace Confuse

inductive Scan (env : Env) : Bytes → List Tok → Prop
  | eof (inp : Bytes) : (lexInitial env 0 inp).tok = .eof → Scan env inp [.eof]
  | err (inp : Bytes) (e : LexErr) : (lexInitial env 0 inp).tok = .err e → Scan env inp [.err e]
  | tok (inp : Bytes) (ts : List Tok) : (lexInitial env 0 inp).tok ≠ .eof → (lexInitial env 0 inp).tok.isErr = false →
      Scan env (lexInitial env 0 inp).rest ts → Scan env inp ((lexInitial env 0 inp).tok :: ts)

theorem scan_inv (env : Env) (a : Bytes) (ta : List Tok) (h : Scan env a (ta ++ [.eof])) :
    ((lexInitial env 0 a).tok = .eof ∧ ta = []) ∨
    ((lexInitial env 0 a).tok ≠ .eof ∧ (lexInitial env 0 a).tok.isErr = false ∧
      ∃ ta', ta = (lexInitial env 0 a).tok :: ta' ∧ Scan env (lexInitial env 0 a).rest (ta' ++ [.eof])) := by
  generalize hx : ta ++ [Tok.eof] = x at h
  cases h with
  | eof _ he =>
    left
    refine ⟨he, ?_⟩
    cases ta with
    | nil => rfl
    | cons t ts => simp at hx
  | err _ e he =>
    cases ta with
    | nil => simp at hx
    | cons t ts => simp at hx
  | tok _ ts hne herr hs =>
    right
    refine ⟨hne, herr, ?_⟩
    cases ta with
    | nil => simp only [List.nil_append, List.cons.injEq] at hx; exact absurd hx.1.symm hne
    | cons t ta' =>
      simp only [List.cons_append, List.cons.injEq] at hx
      exact ⟨ta', by rw [hx.1], hx.2 ▸ hs⟩

def afterTok (pe : PEnv) (m1 : PM) : PM :=
  match m1.pendingInclude with
  | some fname => if m1.status == .running then doInclude pe m1 fname else m1
  | none => m1


theorem afterTok_idle (pe : PEnv) (m : PM) (h : m.pendingInclude = none ∨ m.status ≠ .running) : afterTok pe m = m := by
  unfold afterTok
  cases hp : m.pendingInclude with
  | none => rfl
  | some fn => exact if_neg fun hr => (h.resolve_left (by rw [hp]; nofun)) (beq_iff_eq.1 hr)

theorem afterTok_include (pe : PEnv) (m : PM) (fn : Bytes) (hp : m.pendingInclude = some fn) (hrun : m.status = .running) :
    afterTok pe m = doInclude pe m fn := by
  unfold afterTok
  rw [hp]
  exact if_pos (beq_iff_eq.2 hrun)

def popFrame (f : Frame) (src : Src) : Frame :=
  { f with cfg := f.cfg.setInfo { f.cfg.info with filename := src.savedFile, line := src.savedLine } }

/-- `none`: the loop returns `m` -/
def loopNext (orc : Oracle) (pe : PEnv) (m : PM) : Option PM :=
  match m.srcs with
  | [] => none
  | src :: srcs =>
    if (lexInitial pe.env 0 src.rest).tok == .eof && !srcs.isEmpty then
      (match m.frames with
       | f :: rest => some { m with frames := popFrame f src :: rest, srcs := srcs }
       | [] => none)
    else
      some (afterTok pe (pstep orc (setSrcs m ({ src with rest := (lexInitial pe.env 0 src.rest).rest } :: srcs))
        (lexInitial pe.env 0 src.rest).tok (lexInitial pe.env 0 src.rest).nl))

theorem loop_unfold (orc : Oracle) (pe : PEnv) (fuel : Nat) (m : PM) :
    parseLoopFrom orc pe (fuel + 1) .initial m =
      if m.status != .running then m else
      match loopNext orc pe m with
      | none => m
      | some m' => parseLoopFrom orc pe fuel .initial m' := by
  rw [parseLoopFrom]
  unfold loopNext
  by_cases hr : (m.status != .running) = true
  · simp only [hr, if_true]
  · simp only [hr]
    cases hs : m.srcs with
    | nil => rfl
    | cons src srcs =>
      simp only [lexFrom]
      by_cases he : ((lexInitial pe.env 0 src.rest).tok == Tok.eof && !srcs.isEmpty) = true
      · simp only [he, if_true]
        cases m.frames with
        | nil => rfl
        | cons f rest => rfl
      · simp only [he, if_false, Bool.false_eq_true]
        rfl

theorem loop_zero (orc : Oracle) (pe : PEnv) (m : PM) :
    parseLoopFrom orc pe 0 .initial m = if m.status == .running then { m with status := .outOfFuel } else m := by
  rw [parseLoopFrom]

theorem loop_stopped (orc : Oracle) (pe : PEnv) (fuel : Nat) (m : PM) (h : m.status ≠ .running) :
    parseLoopFrom orc pe fuel .initial m = m := by
  cases fuel with
  | zero => rw [loop_zero]; simp [h]
  | succ n => rw [loop_unfold]; simp [h]

theorem loop_mono (orc : Oracle) (pe : PEnv) : ∀ (fuel : Nat) (m : PM),
    (parseLoopFrom orc pe fuel .initial m).status ≠ .outOfFuel →
    parseLoopFrom orc pe (fuel + 1) .initial m = parseLoopFrom orc pe fuel .initial m := by
  intro fuel
  induction fuel with
  | zero =>
    intro m h
    rw [loop_zero] at h ⊢
    by_cases hr : m.status = .running
    · simp [hr] at h
    · have : (m.status == Status.running) = false := by simpa using hr
      rw [loop_unfold]; simp [hr, this]
  | succ n ih =>
    intro m h
    rw [loop_unfold orc pe (n + 1), loop_unfold orc pe n] at *
    split
    · rfl
    · rename_i hr
      simp only [hr] at h
      cases hn : loopNext orc pe m with
      | none => rfl
      | some m' =>
        simp only [hn] at h ⊢
        exact ih m' h

theorem loopNext_pop (orc : Oracle) (pe : PEnv) (M : PM) (src : Src) (srcs : List Src) (f : Frame) (rest : List Frame)
    (h : M.srcs = src :: srcs) (he : (lexInitial pe.env 0 src.rest).tok = .eof) (hne : srcs ≠ []) (hF : M.frames = f :: rest) :
    loopNext orc pe M = some { M with frames := popFrame f src :: rest, srcs := srcs } := by
  unfold loopNext
  simp [h, he, List.isEmpty_eq_false_iff.2 hne, hF]

theorem loopNext_tok (orc : Oracle) (pe : PEnv) (M : PM) (src : Src) (srcs : List Src)
    (h : M.srcs = src :: srcs) (hc : ¬ ((lexInitial pe.env 0 src.rest).tok = .eof ∧ srcs ≠ [])) :
    loopNext orc pe M = some (afterTok pe (pstep orc (setSrcs M ({ src with rest := (lexInitial pe.env 0 src.rest).rest } :: srcs))
        (lexInitial pe.env 0 src.rest).tok (lexInitial pe.env 0 src.rest).nl)) := by
  unfold loopNext
  have : ((lexInitial pe.env 0 src.rest).tok == Tok.eof && !srcs.isEmpty) = false := by
    cases srcs with
    | nil => exact Bool.and_false _
    | cons a b => exact (Bool.and_eq_false_iff.2 (.inl (beq_eq_false_iff_ne.2 fun h1 => hc ⟨h1, List.cons_ne_nil a b⟩)))
  simp [h, this]

theorem loop_step (orc : Oracle) (pe : PEnv) (n : Nat) {M N : PM} (hrun : M.status = .running) (e : loopNext orc pe M = some N) :
    parseLoopFrom orc pe (n + 1) .initial M = parseLoopFrom orc pe n .initial N := by
  rw [loop_unfold]; simp only [hrun, bne_self_eq_false, Bool.false_eq_true, if_false, e]

theorem loop_return (orc : Oracle) (pe : PEnv) (fuel : Nat) (sc : StartCond) (m : PM) (src : Src) (srcs : List Src)
    (f : Frame) (rest : List Frame) (hrun : m.status = .running) (hs : m.srcs = src :: srcs) (hne : srcs ≠ [])
    (hfr : m.frames = f :: rest) (heof : (lexFrom pe.env sc src.rest).tok = .eof) :
    parseLoopFrom orc pe (fuel + 1) sc m =
      parseLoopFrom orc pe fuel .initial
        { m with frames := { f with cfg := f.cfg.setInfo { f.cfg.info with filename := src.savedFile, line := src.savedLine } } :: rest,
                 srcs := srcs } := by
  rw [parseLoopFrom]
  simp [hrun, hs, heof, List.isEmpty_eq_false_iff.2 hne, hfr]

/-- the link to the parse loop: from its top source the loop takes the head of that source's `Scan`
sequence — the token `lexInitial` finds — hands it to the token machine, and goes on with the rest of
the text, whose `Scan` sequence is the tail -/
theorem C13_loop_reads_scan (orc : Oracle) (pe : PEnv) (fuel : Nat) (m : PM) (src : Src) (srcs : List Src)
    (hrun : m.status = .running) (hs : m.srcs = src :: srcs) (hne : (lexInitial pe.env 0 src.rest).tok ≠ .eof) :
    parseLoopFrom orc pe (fuel + 1) .initial m =
      parseLoopFrom orc pe fuel .initial
        (afterTok pe (pstep orc { m with srcs := { src with rest := (lexInitial pe.env 0 src.rest).rest } :: srcs }
          (lexInitial pe.env 0 src.rest).tok (lexInitial pe.env 0 src.rest).nl)) := by
  exact loop_step orc pe fuel hrun (loopNext_tok orc pe m src srcs hs fun x => hne x.1)

/-- … and at the end of the top-level source the machine gets the end-of-input token -/
theorem C13_loop_reads_eof (orc : Oracle) (pe : PEnv) (fuel : Nat) (m : PM) (src : Src)
    (hrun : m.status = .running) (hs : m.srcs = [src]) (heof : (lexInitial pe.env 0 src.rest).tok = .eof) :
    parseLoopFrom orc pe (fuel + 1) .initial m =
      parseLoopFrom orc pe fuel .initial
        (afterTok pe (pstep orc { m with srcs := [{ src with rest := (lexInitial pe.env 0 src.rest).rest }] }
          .eof (lexInitial pe.env 0 src.rest).nl)) := by
  rw [loop_step orc pe fuel hrun (loopNext_tok orc pe m src [] hs fun x => x.2 rfl), heof]; rfl

end Confuse
