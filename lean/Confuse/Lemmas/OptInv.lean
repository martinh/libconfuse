import Confuse.Lemmas.Parser
import Confuse.Lemmas.Store
/-!
# The current option is what the state says it is

In the states that follow an option name the frame's `opt` refers to an existing option of the kind
that led there: a value option in states 1–4, a section in 5–6, a function in 7–9.  Here: the invariant `OptInv` and
the facts about `cfg_setopt` its preservation needs.  That every step keeps it (`pstep_optinv`) is proved in
`Lemmas/Reported.lean`, in the same pass over the parser states as "every rejecting step reports" (`stepFn_good`).
-/
namespace Confuse

def valueKind (o : Opt) : Prop := o.ty ≠ .sec ∧ o.ty ≠ .func

def OptInv (f : Frame) : Prop :=
  match f.state with
  | .s1 | .s2 | .s3 | .s4 => ∃ r o, f.opt = some r ∧ f.cfg.getOpt r = some o ∧ valueKind o
  | .s5 => ∃ r o, f.opt = some r ∧ f.cfg.getOpt r = some o ∧ o.ty = .sec ∧ (o.flags.title = true → f.opttitle.isSome)
  | .s6 => ∃ r o, f.opt = some r ∧ f.cfg.getOpt r = some o ∧ o.ty = .sec
  | .s7 | .s8 | .s9 => ∃ r o, f.opt = some r ∧ f.cfg.getOpt r = some o ∧ o.ty = .func
  | _ => True

def OptInvM (m : PM) : Prop := m.status = .running → ∀ f ∈ m.frames.head?, OptInv f

theorem optInvM_of (m : PM) (g : Frame) (rest : List Frame) (hfr : m.frames = g :: rest) (hg : OptInv g) : OptInvM m := by
  intro _ f hf
  rw [hfr] at hf
  cases hf
  exact hg

theorem optInv_free (g : Frame) (h : g.state = .s0 ∨ g.state = .s10 ∨ g.state = .s11 ∨ g.state = .s12 ∨ g.state = .s13 ∨ g.state = .s14) : OptInv g := by
  unfold OptInv
  rcases h with h | h | h | h | h | h <;> simp [h]

theorem optInv_val {g : Frame} (hst : g.state = .s1 ∨ g.state = .s2 ∨ g.state = .s3 ∨ g.state = .s4) :
    OptInv g ↔ ∃ r o, g.opt = some r ∧ g.cfg.getOpt r = some o ∧ valueKind o := by
  unfold OptInv; rcases hst with h | h | h | h <;> simp only [h]

theorem optInv_func {g : Frame} (hst : g.state = .s7 ∨ g.state = .s8 ∨ g.state = .s9) :
    OptInv g ↔ ∃ r o, g.opt = some r ∧ g.cfg.getOpt r = some o ∧ o.ty = .func := by
  unfold OptInv; rcases hst with h | h | h <;> simp only [h]

theorem optInv_s5 {g : Frame} (hst : g.state = .s5) :
    OptInv g ↔ ∃ r o, g.opt = some r ∧ g.cfg.getOpt r = some o ∧ o.ty = .sec ∧ (o.flags.title = true → g.opttitle.isSome) := by
  unfold OptInv; simp only [hst]

theorem optInv_s6 {g : Frame} (hst : g.state = .s6) :
    OptInv g ↔ ∃ r o, g.opt = some r ∧ g.cfg.getOpt r = some o ∧ o.ty = .sec := by
  unfold OptInv; simp only [hst]

theorem optInv_setInfo (f : Frame) (i : CfgInfo) (h : OptInv f) : OptInv { f with cfg := f.cfg.setInfo i } := by
  unfold OptInv at h ⊢
  cases hst : f.state <;> simp only [hst] at h ⊢ <;>
    (obtain ⟨r, o, h1, h2, h3⟩ := h; exact ⟨r, o, h1, by rw [getOpt_setInfo]; exact h2, h3⟩)

theorem optInv_addLine (f : Frame) (n : Nat) (h : OptInv f) : OptInv (f.addLine n) := optInv_setInfo f _ h

theorem findTitle_lt (nocase : Bool) (t : Bytes) : ∀ (vs : List Val) (i k : Nat), findTitle nocase t vs i = some k → i ≤ k ∧ k < i + vs.length := by
  intro vs
  induction vs with
  | nil => intro i k h; simp [findTitle] at h
  | cons v vs ih =>
    intro i k h
    cases v with
    | sec c =>
      simp only [findTitle] at h
      cases hc : c.info.title with
      | none =>
        simp only [hc] at h
        have := ih (i + 1) k h
        simp only [List.length_cons]; omega
      | some t' =>
        simp only [hc] at h
        split at h
        · simp only [Option.some.injEq] at h; subst h; simp
        · have := ih (i + 1) k h
          simp only [List.length_cons]; omega
    | _ =>
      have := ih (i + 1) k h
      simp only [List.length_cons]; omega


theorem setoptStore_sec_cell (ci : CfgInfo) (o1 : Opt) (v : Option Bytes) (app : Bool) (found : Option Nat)
    (hf : ∀ j, found = some j → j < o1.vals.length) (happ : app = false → 0 < o1.vals.length) :
    ∃ s, (setoptStore ci o1 .sec v app found).2.1[(setoptStore ci o1 .sec v app found).1]? = some (.sec s) := by
  unfold setoptStore
  cases app with
  | true =>
    simp only [Bool.true_and, if_true]
    cases found with
    | none => exact ⟨mkSection ci o1 v, by simp⟩
    | some j =>
      simp only [Option.isNone_some, Bool.false_eq_true, if_false]
      rw [listSet_get _ _ _ (by simp [hf j rfl])]
      split
      · split <;> exact ⟨_, rfl⟩
      · exact ⟨_, rfl⟩
  | false =>
    simp only [Bool.false_and, Bool.false_eq_true, if_false]
    rw [listSet_get _ _ _ (by simp [happ rfl])]
    split
    · split <;> exact ⟨_, rfl⟩
    · exact ⟨_, rfl⟩

theorem setopt_sec_cell (orc : Oracle) (k : Nat) (ci : CfgInfo) (o : Opt) (v : Option Bytes) (hty : o.ty = .sec)
    (htitle : o.flags.title = true → v.isSome) :
    ((setopt orc k ci o v).res = none → (setopt orc k ci o v).diags ≠ []) ∧
    (∀ i, (setopt orc k ci o v).res = some i → ∃ s, (setopt orc k ci o v).opt.vals[i]? = some (.sec s)) := by
  rcases setopt_cases orc k ci o v with ⟨e, he, -⟩ | ⟨p, ds, -, -, ht, hds, h⟩ | ⟨p, hp, h⟩
  · rw [setoptConvert_sec _ _ _ _ hty] at he; cases he
  · rw [h]
    refine ⟨fun _ hd => ?_, nofun⟩
    have := htitle ht
    rw [hds hd] at this; cases this
  · rw [h]
    rw [setoptConvert_sec _ _ _ _ hty] at hp; cases hp
    refine ⟨nofun, fun i hi => ?_⟩
    cases hi
    refine setoptStore_sec_cell ci _ v _ _ (fun j hj => ?_) (fun ha => ?_) <;> rw [dropDefaults_vals]
    · obtain ⟨-, -, t, -, ht⟩ := foundTitle_some hj
      have := findTitle_lt _ t _ 0 j ht; omega
    · simp only [Bool.or_eq_false_iff, beq_eq_false_iff_ne] at ha
      omega


macro "conv_tac" h:ident : tactic =>
  `(tactic| (repeat' split at $h:ident
             all_goals first
               | (simp at $h:ident; done)
               | (simp only [Except.error.injEq] at $h:ident; subst $h:ident; simp; done)))

theorem convert_error_reported (orc : Oracle) (k : Nat) (o : Opt) (v : Bytes) (e : List DiagCls × List CbCall)
    (h : setoptConvert orc k o (some v) = .error e) :
    e.1 ≠ [] ∨ e.2 ≠ [] := by
  generalize hval : some v = value at h
  revert h
  fun_cases setoptConvert orc k o value
  all_goals intro h
  -- a branch without a value, one that converts (a section or function always does); else `e` is read off
  all_goals first
    | (cases hval; done)
    | (cases h; done)
    | (cases h; simp)

/-- the second disjunct: a parse callback that refuses is itself responsible for reporting -/
theorem setopt_value_reported (orc : Oracle) (k : Nat) (ci : CfgInfo) (o : Opt) (v : Bytes) (hk : valueKind o)
    (h : (setopt orc k ci o (some v)).res = none) :
    (setopt orc k ci o (some v)).diags ≠ [] ∨ (setopt orc k ci o (some v)).calls ≠ [] := by
  rcases setopt_cases orc k ci o (some v) with ⟨e, he, h'⟩ | ⟨_, _, -, hs, -⟩ | ⟨_, -, h'⟩
  · rw [h']; exact convert_error_reported orc k o v e he
  · exact absurd hs hk.1
  · rw [h'] at h; cases h

end Confuse
