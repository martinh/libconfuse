import Confuse.Model.Parser
import Confuse.Lemmas.Path
/-!
# The token machine: its primitives and the equations of one step

Everything later files need to know about `pstep` without unfolding it: what the log primitives leave alone, the
callbacks as log-independent effects (`validVerdict`, `depEffect`), and `pstep_eq`: a step of a running machine
advances the line of the top frame `f` and is `stepAt` there - a scanner error or the end of input, a comment token
outside state 0 (skipped), or the function `stepFn f.state` of the frame's state.  Then `include` analysed once
(`includeTarget`, `doInclude_eq`), the line a step leaves the machine on, and the three ways the store of a value ends.
-/
namespace Confuse

/-- a stack with a top frame always collapses, so the `none` arm of `PM.reject` is dead and every projection of a rejected
machine is read off by `rfl` -/
theorem reject_eq (m : PM) (f : Frame) (rest : List Frame) :
    m.reject f rest = { m with frames := [collapseInto f rest], status := .rejected } := rfl
theorem rejectWith_eq (m : PM) (f : Frame) (rest : List Frame) (c : DiagCls) :
    m.rejectWith f rest c = { m with frames := [collapseInto f rest], status := .rejected, diags := f.diag c :: m.diags } := rfl
@[simp] theorem reject_status (m : PM) (f : Frame) (rest : List Frame) : (m.reject f rest).status = .rejected := rfl
@[simp] theorem rejectWith_status (m : PM) (f : Frame) (rest : List Frame) (c : DiagCls) : (m.rejectWith f rest c).status = .rejected := rfl
@[simp] theorem reject_trace (m : PM) (f : Frame) (rest : List Frame) : (m.reject f rest).trace = m.trace := rfl
theorem rejectWith_diags (m : PM) (f : Frame) (rest : List Frame) (c : DiagCls) : (m.rejectWith f rest c).diags = f.diag c :: m.diags := rfl
@[simp] theorem addDiags_status (m : PM) (f : Frame) (cs : List DiagCls) : (m.addDiags f cs).status = m.status := rfl
@[simp] theorem addCalls_status (m : PM) (cs : List CbCall) : (m.addCalls cs).status = m.status := rfl
@[simp] theorem addDiags_frames (m : PM) (f : Frame) (cs : List DiagCls) : (m.addDiags f cs).frames = m.frames := rfl
@[simp] theorem addCalls_frames (m : PM) (cs : List CbCall) : (m.addCalls cs).frames = m.frames := rfl
@[simp] theorem addCalls_srcs (m : PM) (cs : List CbCall) : (m.addCalls cs).srcs = m.srcs := rfl
@[simp] theorem addCalls_diags (m : PM) (cs : List CbCall) : (m.addCalls cs).diags = m.diags := rfl
@[simp] theorem addCalls_trace (m : PM) (cs : List CbCall) : (m.addCalls cs).trace = cs.reverse ++ m.trace := rfl
@[simp] theorem addCalls_pendingInclude (m : PM) (cs : List CbCall) : (m.addCalls cs).pendingInclude = m.pendingInclude := rfl
@[simp] theorem addCalls_maxDepth (m : PM) (cs : List CbCall) : (m.addCalls cs).maxDepth = m.maxDepth := rfl
@[simp] theorem addDiags_srcs (m : PM) (f : Frame) (cs : List DiagCls) : (m.addDiags f cs).srcs = m.srcs := rfl
@[simp] theorem addDiags_trace (m : PM) (f : Frame) (cs : List DiagCls) : (m.addDiags f cs).trace = m.trace := rfl
@[simp] theorem addDiags_pendingInclude (m : PM) (f : Frame) (cs : List DiagCls) : (m.addDiags f cs).pendingInclude = m.pendingInclude := rfl
@[simp] theorem addDiags_maxDepth (m : PM) (f : Frame) (cs : List DiagCls) : (m.addDiags f cs).maxDepth = m.maxDepth := rfl
@[simp] theorem addDiags_diags (m : PM) (f : Frame) (cs : List DiagCls) : (m.addDiags f cs).diags = (cs.map f.diag).reverse ++ m.diags := rfl

theorem addCalls_k (m : PM) (cs : List CbCall) : (m.addCalls cs).k = m.k + cs.length := by simp [PM.k, Nat.add_comm]
theorem addDiags_k (m : PM) (f : Frame) (cs : List DiagCls) : (m.addDiags f cs).k = m.k := rfl

theorem addCalls_nil (m : PM) : m.addCalls [] = m := rfl
@[simp] theorem addDiags_nil (m : PM) (f : Frame) : m.addDiags f [] = m := rfl

def Frame.addLine (f : Frame) (n : Nat) : Frame := { f with cfg := f.cfg.setLine (f.cfg.line + n) }

theorem addLine_addLine (f : Frame) (a b : Nat) : (f.addLine a).addLine b = f.addLine (a + b) := by
  simp only [Frame.addLine, setLine_line, setLine_setLine, Nat.add_assoc]

theorem addLine_zero (f : Frame) : f.addLine 0 = f := by
  rw [Frame.addLine, Nat.add_zero, setLine_same]

theorem getOpt_addLine (f : Frame) (nl : Nat) (r : OptRef) : (f.addLine nl).cfg.getOpt r = f.cfg.getOpt r :=
  getOpt_setLine _ _ r

theorem getOpt_afterSection (c s : Cfg) (r : OptRef) : (c.afterSection s).getOpt r = c.getOpt r :=
  getOpt_setInfo c _ r

/-- the verdict of the validation callback of the frame's current option: `none` = vetoed,
`some calls` = the invocations to log -/
def validVerdict (orc : Oracle) (k : Nat) (f : Frame) : Option (List CbCall) :=
  match f.opt with
  | some r =>
    (match f.cfg.getOpt r with
     | some o =>
       if o.info.validCb then
         (if orc k (CbCall.valid o.name (o.vals.map Val.snap)) = .fail then none
          else some [CbCall.valid o.name (o.vals.map Val.snap)])
       else some []
     | none => some [])
  | none => some []

theorem runValid_spec (orc : Oracle) (m : PM) (f : Frame) :
    runValid orc m f = (validVerdict orc m.k f).map m.addCalls := by
  unfold runValid validVerdict
  cases hopt : f.opt with
  | none => simp [addCalls_nil]
  | some r =>
    cases hget : f.cfg.getOpt r with
    | none => simp [hget, addCalls_nil]
    | some o =>
      by_cases h1 : o.info.validCb = true
      · by_cases h2 : orc m.k (CbCall.valid o.name (o.vals.map Val.snap)) = .fail <;> simp [hget, h1, h2]
      · simp [hget, h1, addCalls_nil]

theorem runValid_eq_some {orc : Oracle} {m m' : PM} {f : Frame} (h : runValid orc m f = some m') : ∃ cs, m' = m.addCalls cs := by
  rw [runValid_spec] at h
  obtain ⟨cs, -, rfl⟩ := Option.map_eq_some_iff.1 h
  exact ⟨cs, rfl⟩

theorem runValid_some (orc : Oracle) (m m' : PM) (f : Frame) (h : runValid orc m f = some m') :
    m'.status = m.status ∧ m'.frames = m.frames := by
  obtain ⟨cs, rfl⟩ := runValid_eq_some h
  exact ⟨rfl, rfl⟩

theorem runValid_frames (orc : Oracle) (m m' : PM) (f : Frame) (h : runValid orc m f = some m') :
    m'.frames = m.frames ∧ m'.status = m.status ∧ m'.maxDepth = m.maxDepth := by
  obtain ⟨cs, rfl⟩ := runValid_eq_some h
  exact ⟨rfl, rfl, rfl⟩

theorem vetoed_status (orc : Oracle) (m : PM) (g : Frame) : (vetoed orc m g).status = m.status := by
  unfold vetoed
  repeat' split
  all_goals rfl

/-- what `cfg_handle_deprecated` does, independent of the machine's logs -/
def depEffect (f : Frame) : List DiagCls × List CbCall × Frame :=
  match f.opt with
  | some r =>
    (match f.cfg.getOpt r with
     | some o =>
       if o.flags.deprecated then
         if o.flags.drop then ([.deprecatedDrop], (freeValue o).2, { f with cfg := f.cfg.setOpt r (freeValue o).1 })
         else ([.deprecatedKeep], [], f)
       else ([], [], f)
     | none => ([], [], f))
  | none => ([], [], f)

theorem handleDeprecated_spec (m : PM) (f : Frame) :
    handleDeprecated m f = (((m.addDiags f (depEffect f).1).addCalls (depEffect f).2.1), (depEffect f).2.2) := by
  unfold handleDeprecated depEffect
  cases hopt : f.opt with
  | none => simp [addCalls_nil]
  | some r =>
    cases hget : f.cfg.getOpt r with
    | none => simp [hget, addCalls_nil]
    | some o =>
      by_cases h1 : o.flags.deprecated = true
      · by_cases h2 : o.flags.drop = true <;> simp [hget, h1, h2, addCalls_nil]
      · simp [hget, h1, addCalls_nil]

theorem depEffect_frame (f : Frame) : ∃ c, (depEffect f).2.2 = { f with cfg := c } ∧ c.info = f.cfg.info := by
  unfold depEffect
  repeat' split
  all_goals exact ⟨_, rfl, by simp⟩

def noPendingDeprecated (f : Frame) : Prop :=
  ∀ r o, f.opt = some r → f.cfg.getOpt r = some o → o.flags.deprecated = false

theorem depEffect_id (f : Frame) (h : noPendingDeprecated f) : depEffect f = ([], [], f) := by
  unfold depEffect
  split
  · rename_i r hr
    split
    · rename_i o ho
      simp [h r o hr ho]
    · rfl
  · rfl

theorem handleDeprecated_id (m : PM) (f : Frame) (h : noPendingDeprecated f) : handleDeprecated m f = (m, f) := by
  rw [handleDeprecated_spec, depEffect_id f h, addDiags_nil, addCalls_nil]

/-- the option a frame has in hand is not deprecated -/
theorem noPending_of_opt {f : Frame} {r : OptRef} {o : Opt} (hr : f.opt = some r) (hg : f.cfg.getOpt r = some o)
    (hd : o.flags.deprecated = false) : noPendingDeprecated f := by
  intro r' o' hr' ho'
  rw [hr] at hr'; cases hr'
  rw [hg] at ho'; cases ho'
  exact hd

theorem noPending_addLine (f : Frame) (n : Nat) (h : noPendingDeprecated f) : noPendingDeprecated (f.addLine n) := by
  intro r o hr ho
  rw [getOpt_addLine] at ho
  exact h r o hr ho

/-- `cfg_handle_deprecated` writes through the lens only: flags, position and print filter of the context stay -/
theorem handleDeprecated_info (m : PM) (f : Frame) : (handleDeprecated m f).2.cfg.info = f.cfg.info := by
  obtain ⟨c, hc, hi⟩ := depEffect_frame f
  rw [handleDeprecated_spec, hc]
  exact hi

theorem handleDeprecated_line (m : PM) (f : Frame) :
    (handleDeprecated m f).2.cfg.line = f.cfg.line ∧ (handleDeprecated m f).1.status = m.status ∧
    (handleDeprecated m f).2.state = f.state ∧ (handleDeprecated m f).2.level = f.level := by
  refine ⟨congrArg CfgInfo.line (handleDeprecated_info m f), ?_⟩
  obtain ⟨c, hc, -⟩ := depEffect_frame f
  rw [handleDeprecated_spec, hc]
  exact ⟨rfl, rfl, rfl⟩

theorem inheritComment_cases (f : Frame) :
    inheritComment f = { f with comment := none } ∨
    ∃ c r o, f.comment = some c ∧ f.opt = some r ∧ f.cfg.getOpt r = some o ∧
      inheritComment f = { f with cfg := f.cfg.setOpt r (.mk o.info { o.flags with comments := true, modified := true } o.subs o.vals (some c)),
                                  comment := none } := by
  unfold inheritComment
  split
  · split
    · exact .inr ⟨_, _, _, ‹_›, ‹_›, ‹_›, rfl⟩
    · exact .inl rfl
  · exact .inl rfl

theorem inheritComment_frame (f : Frame) : ∃ c, inheritComment f = { f with cfg := c, comment := none } ∧ c.line = f.cfg.line := by
  rcases inheritComment_cases f with h | ⟨_, _, _, -, -, -, h⟩ <;> exact ⟨_, h, by simp⟩

theorem inheritComment_line (f : Frame) : (inheritComment f).cfg.line = f.cfg.line := by
  obtain ⟨c, h, hl⟩ := inheritComment_frame f
  rw [h]; exact hl

theorem inheritComment_opt (f : Frame) : (inheritComment f).opt = f.opt := by
  obtain ⟨c, h, -⟩ := inheritComment_frame f
  rw [h]

theorem inheritComment_getOpt (f : Frame) (r : OptRef) (o : Opt) (hopt : f.opt = some r) (hget : f.cfg.getOpt r = some o) :
    ∃ o', (inheritComment f).cfg.getOpt r = some o' ∧ o'.info = o.info ∧ o'.flags.list = o.flags.list := by
  rcases inheritComment_cases f with h | ⟨c, r', o', -, hr, ho, h⟩ <;> rw [h]
  · exact ⟨o, hget, rfl, rfl⟩
  · cases hopt.symm.trans hr
    cases hget.symm.trans ho
    exact ⟨_, getOpt_setOpt _ _ o _ hget, rfl, rfl⟩

theorem inheritComment_state (f : Frame) : (inheritComment f).state = f.state := by
  obtain ⟨c, h, -⟩ := inheritComment_frame f
  rw [h]

theorem inheritComment_none (f : Frame) (h : f.comment = none) : inheritComment f = f := by
  cases f; cases h; rfl

def nameState (o : Opt) : PState :=
  if o.ty == .sec then (if o.flags.title then .s6 else .s5) else if o.ty == .func then .s7 else .s1

theorem nameState_cases (o : Opt) :
    (o.ty = .sec ∧ o.flags.title = true ∧ nameState o = .s6) ∨ (o.ty = .sec ∧ o.flags.title = false ∧ nameState o = .s5) ∨
    (o.ty = .func ∧ nameState o = .s7) ∨ (o.ty ≠ .sec ∧ o.ty ≠ .func ∧ nameState o = .s1) := by
  unfold nameState
  by_cases h1 : o.ty = .sec
  · cases o.flags.title <;> simp [h1]
  · by_cases h3 : o.ty = .func <;> simp [h1, h3]

/-- the tokens that may occur inside skipped text -/
def Tok.inner : Tok → Bool
  | .eof => false
  | .err _ => false
  | _ => true

def Tok.isComment : Tok → Bool
  | .comment _ => true
  | _ => false

def errCls (e : LexErr) : DiagCls :=
  match e with
  | .unterminatedString => .unterminatedString | .unterminatedComment => .unterminatedComment
  | .badOctal => .badOctal | .badEscape => .badEscape

def stepFn : PState → Oracle → PM → Frame → List Frame → Tok → PM
  | .s0 => step_s0 | .s1 => step_s1 | .s2 => step_s2 | .s3 => step_s3 | .s4 => step_s4
  | .s5 => step_s5 | .s6 => step_s6 | .s7 => step_s7 | .s8 => step_s8 | .s9 => step_s9
  | .s10 => step_s10 | .s11 => step_s11 | .s12 => step_s12 | .s13 => step_s13 | .s14 => step_s14

/-- one token on a running machine `M` whose top frame is `f` (line already advanced) over `rest` -/
def stepAt (orc : Oracle) (M : PM) (f : Frame) (rest : List Frame) (tok : Tok) : PM :=
  match tok with
  | .err e => M.rejectWith f rest (errCls e)
  | .eof =>
    if f.state != .s0 || f.level > 0 then M.rejectWith f rest .prematureEof
    else { (handleDeprecated M f).1 with frames := [(handleDeprecated M f).2], status := .accepted }
  | tok =>
    if tok.isComment && f.state != .s0 then M
    else stepFn f.state orc M f rest tok

theorem stepAt_inner (orc : Oracle) (M : PM) (f : Frame) (rest : List Frame) (tok : Tok) (hin : tok.inner = true) :
    stepAt orc M f rest tok = if tok.isComment && f.state != .s0 then M else stepFn f.state orc M f rest tok := by
  cases tok <;> first | rfl | cases hin

theorem pstep_eq (orc : Oracle) (m : PM) (tok : Tok) (nl : Nat) :
    pstep orc m tok nl =
      if m.status != .running then m else
      match m.frames with
      | [] => m
      | f :: rest => stepAt orc { m with frames := f.addLine nl :: rest } (f.addLine nl) rest tok := by
  unfold pstep
  split
  · rfl
  · cases m.frames with
    | nil => rfl
    | cons f rest =>
      cases tok with
      | err e => cases e <;> rfl
      | eof => rfl
      | _ =>
        obtain ⟨cfg, level, state, opt, comment, opttitle, funcargs, ignore, depth, numValues, back⟩ := f
        exact ite_congr rfl (fun _ => rfl) (fun _ => by cases state <;> rfl)

theorem pstep_idle (orc : Oracle) (m : PM) (tok : Tok) (nl : Nat) (h : m.status ≠ .running ∨ m.frames = []) :
    pstep orc m tok nl = m := by
  rw [pstep_eq]
  rcases h with h | h
  · simp [h]
  · simp [h]

theorem pstep_top (orc : Oracle) (m : PM) (f : Frame) (rest : List Frame) (tok : Tok) (nl : Nat)
    (hrun : m.status = .running) (hfr : m.frames = f :: rest) :
    pstep orc m tok nl = stepAt orc { m with frames := f.addLine nl :: rest } (f.addLine nl) rest tok := by
  simp [pstep_eq, hrun, hfr]

theorem pstep_cases {Q : PM → Prop} (orc : Oracle) (m : PM) (tok : Tok) (nl : Nat)
    (hm : m.status ≠ .running ∨ m.frames = [] → Q m)
    (hstep : ∀ f rest, m.status = .running → m.frames = f :: rest →
      Q (stepAt orc { m with frames := f.addLine nl :: rest } (f.addLine nl) rest tok)) :
    Q (pstep orc m tok nl) := by
  by_cases hrun : m.status = .running
  · cases hfr : m.frames with
    | nil => rw [pstep_idle orc m tok nl (Or.inr hfr)]; exact hm (Or.inr hfr)
    | cons f rest => rw [pstep_top orc m f rest tok nl hrun hfr]; exact hstep f rest hrun hfr
  · rw [pstep_idle orc m tok nl (Or.inl hrun)]; exact hm (Or.inl hrun)

theorem stepAt_cases {Q : PM → Prop} (orc : Oracle) (M : PM) (f : Frame) (rest : List Frame) (tok : Tok)
    (hrej : ∀ c, Q (M.rejectWith f rest c))
    (heof : f.state = .s0 → f.level = 0 →
      Q { (handleDeprecated M f).1 with frames := [(handleDeprecated M f).2], status := .accepted })
    (hskip : Q M) (hfn : tok.inner = true → Q (stepFn f.state orc M f rest tok)) :
    Q (stepAt orc M f rest tok) := by
  by_cases hin : tok.inner = true
  · rw [stepAt_inner _ _ _ _ _ hin]
    split
    · exact hskip
    · exact hfn hin
  · cases tok with
    | err e => exact hrej _
    | eof =>
      simp only [stepAt]
      split
      · exact hrej _
      · rename_i h
        simp only [Bool.or_eq_true, bne_iff_ne, ne_eq, decide_eq_true_eq, not_or, Decidable.not_not, Nat.not_lt, Nat.le_zero] at h
        exact heof h.1 h.2
    | _ => exact absurd rfl hin

theorem pstep_stopped (orc : Oracle) (m : PM) (t : Tok) (n : Nat) (h : m.status ≠ .running) : pstep orc m t n = m :=
  pstep_idle orc m t n (Or.inl h)

theorem pstep_err (orc : Oracle) (m : PM) (f : Frame) (rest : List Frame) (e : LexErr) (nl : Nat)
    (hrun : m.status = .running) (hfr : m.frames = f :: rest) :
    pstep orc m (.err e) nl = ({ m with frames := f.addLine nl :: rest } : PM).rejectWith (f.addLine nl) rest (errCls e) :=
  pstep_top orc m f rest _ nl hrun hfr

theorem pstep_eof (orc : Oracle) (m : PM) (f : Frame) (rest : List Frame) (nl : Nat)
    (hrun : m.status = .running) (hfr : m.frames = f :: rest) :
    pstep orc m .eof nl =
      (if f.state != .s0 || f.level > 0 then ({ m with frames := f.addLine nl :: rest } : PM).rejectWith (f.addLine nl) rest .prematureEof
       else { (handleDeprecated { m with frames := f.addLine nl :: rest } (f.addLine nl)).1 with
              frames := [(handleDeprecated { m with frames := f.addLine nl :: rest } (f.addLine nl)).2], status := .accepted }) :=
  pstep_top orc m f rest _ nl hrun hfr

theorem pstep_comment_skip (orc : Oracle) (m : PM) (f : Frame) (rest : List Frame) (v : Bytes) (nl : Nat)
    (hrun : m.status = .running) (hfr : m.frames = f :: rest) (hs : f.state ≠ .s0) :
    pstep orc m (.comment v) nl = { m with frames := f.addLine nl :: rest } := by
  have : ((f.addLine nl).state != .s0) = true := by simpa [Frame.addLine] using hs
  rw [pstep_top orc m f rest _ nl hrun hfr, stepAt_inner _ _ _ _ _ rfl, this]
  rfl

theorem pstep_running (orc : Oracle) (m : PM) (f : Frame) (rest : List Frame) (tok : Tok) (nl : Nat)
    (hrun : m.status = .running) (hfr : m.frames = f :: rest) (hin : tok.inner = true)
    (hnc : tok.isComment = false ∨ f.state = .s0) :
    pstep orc m tok nl = stepFn f.state orc { m with frames := f.addLine nl :: rest } (f.addLine nl) rest tok := by
  have hc : (tok.isComment && (f.addLine nl).state != .s0) = false := by
    rcases hnc with h | h
    · rw [h]; rfl
    · simp [Frame.addLine, h]
  rw [pstep_top orc m f rest _ nl hrun hfr, stepAt_inner _ _ _ _ _ hin, hc]
  rfl

theorem pstep_at (orc : Oracle) (m : PM) (f : Frame) (rest : List Frame) (tok : Tok) (nl : Nat)
    (hrun : m.status = .running) (hin : tok.inner = true) (hnc : tok.isComment = false ∨ f.state = .s0) :
    pstep orc { m with frames := f :: rest } tok nl =
      stepFn f.state orc { m with frames := f.addLine nl :: rest } (f.addLine nl) rest tok :=
  pstep_running orc { m with frames := f :: rest } f rest tok nl hrun rfl hin hnc

theorem setFrames_self (m : PM) (fs : List Frame) (h : m.frames = fs) : ({ m with frames := fs } : PM) = m := by
  subst h; rfl

abbrev LTok := Tok × Nat

theorem parseToks_nil (orc : Oracle) (m : PM) : parseToks orc m [] = m := rfl

theorem parseToks_cons (orc : Oracle) (m : PM) (t : Tok × Nat) (ts : List (Tok × Nat)) :
    parseToks orc m (t :: ts) = parseToks orc (pstep orc m t.1 t.2) ts := rfl

theorem parseToks_append (orc : Oracle) (m : PM) (a b : List (Tok × Nat)) :
    parseToks orc m (a ++ b) = parseToks orc (parseToks orc m a) b := by
  simp [parseToks, List.foldl_append]

theorem parseToks_stopped (orc : Oracle) (m : PM) (ts : List (Tok × Nat)) (h : m.status ≠ .running) : parseToks orc m ts = m := by
  induction ts with
  | nil => rfl
  | cons t ts ih => rw [parseToks_cons, pstep_stopped orc m _ _ h, ih]

theorem parseToks_preserves {Q : PM → Prop} (orc : Oracle) (hstep : ∀ m t n, Q m → Q (pstep orc m t n)) (ts : List (Tok × Nat)) :
    ∀ m, Q m → Q (parseToks orc m ts) := by
  induction ts with
  | nil => exact fun _ h => h
  | cons t ts ih => exact fun m h => ih _ (hstep m t.1 t.2 h)

/-- a relation that every step keeps, whatever the two line increments, is kept by two runs over the same tokens -/
theorem parseToks_rel {R : PM → PM → Prop} (orc : Oracle) (hstep : ∀ m m' t n n', R m m' → R (pstep orc m t n) (pstep orc m' t n')) :
    ∀ (ts ts' : List LTok) (m m' : PM), ts.map (·.1) = ts'.map (·.1) → R m m' → R (parseToks orc m ts) (parseToks orc m' ts')
  | [], [], _, _, _, h => h
  | [], _ :: _, _, _, ht, _ => by simp at ht
  | _ :: _, [], _, _, ht, _ => by simp at ht
  | t :: ts, t' :: ts', m, m', ht, h => by
    simp only [List.map_cons, List.cons.injEq] at ht
    rw [parseToks_cons, parseToks_cons]
    refine parseToks_rel orc hstep ts ts' _ _ ht.2 ?_
    rw [ht.1]
    exact hstep m m' t'.1 t.2 t'.2 h

/-- what `cfg_include` decides before it touches the machine, `n` sources being open: the file to read
(resolved name and content), or why not -/
def includeTarget (pe : PEnv) (n : Nat) (fname : Bytes) : Except DiagCls (Bytes × Bytes) :=
  if n - 1 ≥ pe.maxInc then .error .includeDepth else
  match resolveFile pe fname with
  | none => .error .includeNotFound
  | some xf =>
    match openFile pe xf with
    | none => .error .includeOpen
    | some content => .ok (xf, content)

theorem doInclude_eq (pe : PEnv) (m : PM) (fname : Bytes) {f : Frame} {rest : List Frame} (hfr : m.frames = f :: rest) :
    doInclude pe m fname =
      match includeTarget pe m.srcs.length fname with
      | .error c => ({ m with pendingInclude := none } : PM).rejectWith f rest c
      | .ok (xf, content) =>
        { m with pendingInclude := none,
                 frames := { f with cfg := f.cfg.setInfo { f.cfg.info with filename := some xf, line := 1 } } :: rest,
                 srcs := { rest := content, savedFile := f.cfg.info.filename, savedLine := f.cfg.info.line } :: m.srcs } := by
  unfold doInclude includeTarget
  simp only [hfr]
  split
  · rfl
  · cases resolveFile pe fname with
    | none => rfl
    | some xf => simp only []; cases openFile pe xf <;> rfl

theorem includeTarget_ok (pe : PEnv) (n : Nat) (fname xf content : Bytes) :
    includeTarget pe n fname = .ok (xf, content) ↔
      ¬ (n - 1 ≥ pe.maxInc) ∧ resolveFile pe fname = some xf ∧ openFile pe xf = some content := by
  unfold includeTarget
  by_cases hd : n - 1 ≥ pe.maxInc
  · simp [hd]
  · cases resolveFile pe fname with
    | none => simp [hd]
    | some xf' =>
      simp only []
      cases ho : openFile pe xf' <;> simp [hd] <;> rintro rfl <;> simp [ho]

theorem includeTarget_congr (pe : PEnv) {n n' : Nat} (fname : Bytes) (h : n - 1 ≥ pe.maxInc ↔ n' - 1 ≥ pe.maxInc) :
    includeTarget pe n fname = includeTarget pe n' fname := by
  unfold includeTarget
  simp only [h]

theorem doInclude_enter (pe : PEnv) (m : PM) (fname xf content : Bytes) {f : Frame} {rest : List Frame}
    (hfr : m.frames = f :: rest) (hd : ¬ (m.srcs.length - 1 ≥ pe.maxInc))
    (hres : resolveFile pe fname = some xf) (hopen : openFile pe xf = some content) :
    doInclude pe m fname =
      { m with pendingInclude := none,
               frames := { f with cfg := f.cfg.setInfo { f.cfg.info with filename := some xf, line := 1 } } :: rest,
               srcs := { rest := content, savedFile := f.cfg.info.filename, savedLine := f.cfg.info.line } :: m.srcs } := by
  rw [doInclude_eq pe m fname hfr, (includeTarget_ok ..).2 ⟨hd, hres, hopen⟩]

def LineOk (L : Nat) (g : PM) : Prop := g.status = .running → ∃ f' rest', g.frames = f' :: rest' ∧ f'.cfg.line = L

theorem lineOk_reject (L : Nat) (m : PM) (f : Frame) (rest : List Frame) : LineOk L (m.reject f rest) := by
  intro h; simp at h
theorem lineOk_rejectWith (L : Nat) (m : PM) (f : Frame) (rest : List Frame) (c : DiagCls) : LineOk L (m.rejectWith f rest c) :=
  lineOk_reject L (m.addDiags f [c]) f rest

theorem storeValue_line (orc : Oracle) (m : PM) (f : Frame) (rest : List Frame) (v : Bytes) (next : PState) :
    LineOk f.cfg.line (storeValue orc m f rest v next) := by
  fun_cases storeValue orc m f rest v next
  case case5 => exact fun _ => ⟨_, _, rfl, by simp +zetaDelta [inheritComment_line]⟩
  all_goals exact lineOk_reject _ _ _ _

theorem callFunction_line (orc : Oracle) (m : PM) (f : Frame) (rest : List Frame) :
    LineOk f.cfg.line (callFunction orc m f rest) := by
  fun_cases callFunction orc m f rest
  all_goals first
    | exact lineOk_reject _ _ _ _
    | exact fun _ => ⟨_, _, rfl, rfl⟩

/-- closes `LineOk L x` for an `x` that was rejected, is a store or a call, or has a top frame whose line `simp` can read off -/
macro "line_auto" : tactic =>
  `(tactic| first
      | exact lineOk_reject _ _ _ _
      | exact storeValue_line _ _ _ _ _ _
      | exact callFunction_line _ _ _ _
      | (refine fun _ => ⟨_, _, rfl, ?_⟩; simp +zetaDelta; done))

/-- entering a section the child starts on the parent's line, leaving one the parent goes on at the child's; `hm` is for
the skipping states 12 and 13, which may leave the machine as it is -/
theorem stepFn_line (s : PState) (orc : Oracle) (m : PM) (f : Frame) (rest : List Frame) (tok : Tok) (hm : m.frames = f :: rest) :
    LineOk f.cfg.line (stepFn s orc m f rest tok) := by
  cases s <;> simp only [stepFn]
  case s0 =>
    have hd := (handleDeprecated_line m f).1
    -- `fun_cases` destructures `handleDeprecated m f` into a pair and leaves the equation in the context; the next
    -- line carries the fact `hd` over to that pair with it (the same two lines open state 0 in every `stepFn_X`).
    -- `case caseN`: the branches of `step_sN`, numbered as they stand in Model/Parser.lean.
    fun_cases step_s0 orc m f rest tok
    all_goals simp only [‹handleDeprecated m f = _›] at hd
    all_goals first | line_auto | (refine fun _ => ⟨_, _, rfl, ?_⟩; simp +zetaDelta [hd])
  case s1 => fun_cases step_s1 orc m f rest tok <;> line_auto
  case s2 => fun_cases step_s2 orc m f rest tok <;> line_auto
  case s3 => fun_cases step_s3 orc m f rest tok <;> line_auto
  case s4 => fun_cases step_s4 orc m f rest tok <;> line_auto
  case s5 => fun_cases step_s5 orc m f rest tok <;> line_auto
  case s6 => fun_cases step_s6 orc m f rest tok <;> line_auto
  case s7 => fun_cases step_s7 orc m f rest tok <;> line_auto
  case s8 => fun_cases step_s8 orc m f rest tok <;> line_auto
  case s9 => fun_cases step_s9 orc m f rest tok <;> line_auto
  case s10 => fun_cases step_s10 orc m f rest tok <;> line_auto
  case s11 => fun_cases step_s11 orc m f rest tok <;> line_auto
  case s12 => fun_cases step_s12 orc m f rest tok <;> first | line_auto | exact fun _ => ⟨_, _, hm, rfl⟩
  case s13 => fun_cases step_s13 orc m f rest tok <;> first | line_auto | exact fun _ => ⟨_, _, hm, rfl⟩
  case s14 => fun_cases step_s14 orc m f rest tok <;> line_auto

/-- **C06 (the parser adds exactly the scanner's count).** A step that keeps the machine running
leaves the current context on `line + nl`, across every state, section entry and section exit. -/
theorem pstep_line (orc : Oracle) (m : PM) (f : Frame) (rest : List Frame) (tok : Tok) (nl : Nat)
    (hfr : m.frames = f :: rest) :
    LineOk (f.cfg.line + nl) (pstep orc m tok nl) := by
  by_cases hrun : m.status = .running
  · rw [pstep_top orc m f rest tok nl hrun hfr]
    exact stepAt_cases orc _ (f.addLine nl) rest tok (fun c => lineOk_rejectWith _ _ _ _ _) (fun _ _ h => by simp at h)
      (fun _ => ⟨_, _, rfl, rfl⟩) (fun _ => stepFn_line _ orc _ _ rest tok rfl)
  · rw [pstep_stopped orc m tok nl hrun]
    exact fun h => absurd h hrun

def Live (m : PM) : Prop := m.status = .running → ∃ f inner, m.frames = f :: inner

theorem pstep_live (orc : Oracle) (m : PM) (t : Tok) (n : Nat) (h : Live m) : Live (pstep orc m t n) := by
  by_cases hrun : m.status = .running
  · obtain ⟨f, inner, hfr⟩ := h hrun
    intro hstill
    obtain ⟨f', rest', h1, _⟩ := pstep_line orc m f inner t n hfr hstill
    exact ⟨f', rest', h1⟩
  · rw [pstep_stopped orc m t n hrun]; exact h

theorem parseToks_live (orc : Oracle) (ts : List (Tok × Nat)) : ∀ m, Live m → Live (parseToks orc m ts) :=
  parseToks_preserves orc (pstep_live orc) ts

theorem storeValue_refused (orc : Oracle) (m : PM) (f : Frame) (rest : List Frame) (v : Bytes) (next : PState) (r : OptRef)
    (o o1 : Opt) (ds : List DiagCls) (cs : List CbCall) (hopt : f.opt = some r) (hget : f.cfg.getOpt r = some o)
    (hset : setopt orc m.k f.cfg.info o (some v) = ⟨o1, none, ds, cs⟩) :
    storeValue orc m f rest v next =
      ((m.addCalls cs).addDiags { f with cfg := f.cfg.setOpt r o1 } ds).reject { f with cfg := f.cfg.setOpt r o1 } rest := by
  simp only [storeValue, hopt, hget, hset]

theorem storeValue_vetoed (orc : Oracle) (m : PM) (f : Frame) (rest : List Frame) (v : Bytes) (next : PState) (r : OptRef)
    (o o1 : Opt) (i : Nat) (ds : List DiagCls) (cs : List CbCall) (hopt : f.opt = some r) (hget : f.cfg.getOpt r = some o)
    (hset : setopt orc m.k f.cfg.info o (some v) = ⟨o1, some i, ds, cs⟩) (hvc : o1.info.validCb = true)
    (hfail : orc (m.k + cs.length) (.valid o1.name (o1.vals.map Val.snap)) = .fail) :
    (storeValue orc m f rest v next).status = .rejected ∧
    (storeValue orc m f rest v next).trace = .valid o1.name (o1.vals.map Val.snap) :: (cs.reverse ++ m.trace) := by
  simp only [storeValue, hopt, hget, hset, runValid_spec, validVerdict, getOpt_setOpt _ r o o1 hget, hvc, if_true, addDiags_k, addCalls_k, hfail,
    Option.map, vetoed]
  exact ⟨rfl, rfl⟩

theorem storeValue_go (orc : Oracle) (m : PM) (f : Frame) (rest : List Frame) (v : Bytes) (next : PState) (r : OptRef)
    (o o1 : Opt) (i : Nat) (ds : List DiagCls) (cs : List CbCall) (hopt : f.opt = some r) (hget : f.cfg.getOpt r = some o)
    (hset : setopt orc m.k f.cfg.info o (some v) = ⟨o1, some i, ds, cs⟩)
    (hgo : o1.info.validCb = true → orc (m.k + cs.length) (.valid o1.name (o1.vals.map Val.snap)) ≠ .fail) :
    storeValue orc m f rest v next =
      { m with
        frames := { inheritComment { f with cfg := f.cfg.setOpt r o1 } with
                    numValues := (inheritComment { f with cfg := f.cfg.setOpt r o1 }).numValues + 1, state := next } :: rest,
        diags := (ds.map (Frame.diag { f with cfg := f.cfg.setOpt r o1 })).reverse ++ m.diags,
        trace := (if o1.info.validCb then [CbCall.valid o1.name (o1.vals.map Val.snap)] else []) ++ (cs.reverse ++ m.trace) } := by
  simp only [storeValue, hopt, hget, hset, runValid_spec, validVerdict, getOpt_setOpt _ r o o1 hget, addDiags_k, addCalls_k]
  by_cases hb : o1.info.validCb = true
  · simp only [hb, if_true, hgo hb, if_false, Option.map]; rfl
  · simp only [hb, Option.map]; rfl

end Confuse
