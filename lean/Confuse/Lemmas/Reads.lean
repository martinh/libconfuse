import Confuse.Lemmas.Lexer
/-!
# What one scanner call reads

Every scanner run, seen as a function of the line count it is started with, has the same shape: it
consumes a prefix of its input, returns a token and the rest, neither depending on the count, and adds
to the count the newlines of what it consumed.  `Reads` says this once; that the count is only an
accumulator, that every newline is counted once and that the rest is a suffix are its corollaries.
-/
namespace Confuse

def countNl (b : Bytes) : Nat := b.count c_nl

@[simp] theorem countNl_nil : countNl [] = 0 := rfl

theorem nlCount_eq_countNl (b : Bytes) : nlCount b = countNl b := by
  simp [nlCount, countNl, List.count, List.countP_eq_length_filter]

theorem countNl_cons (c : Nat) (cs : Bytes) : countNl (c :: cs) = (if c = c_nl then 1 else 0) + countNl cs := by
  rw [← nlCount_eq_countNl, ← nlCount_eq_countNl, nlCount_cons]

theorem nlCount_eq_zero {b : Bytes} (h : ∀ x ∈ b, x ≠ c_nl) : nlCount b = 0 := by
  simpa [nlCount, List.filter_eq_nil_iff] using h

theorem nlCount_takeWhile (p : Nat → Bool) (hp : p c_nl = false) (l : Bytes) : nlCount (l.takeWhile p) = 0 :=
  nlCount_eq_zero fun x hx e => Bool.false_ne_true (hp ▸ e ▸ List.all_eq_true.1 List.all_takeWhile x hx)

/-- `f nl` is a scanner run started with line count `nl` on a text `hd ++ inp` of which it is known to
consume `hd`: it stops inside `inp`, and the line count is an accumulator for the newlines consumed -/
def Reads (f : Nat → LexOut) (hd inp : Bytes) : Prop :=
  ∃ t pre rest, inp = pre ++ rest ∧ ∀ nl, f nl = ⟨t, nl + nlCount (hd ++ pre), rest⟩

def LexOut.bump (o : LexOut) (k : Nat) : LexOut := { o with nl := o.nl + k }

namespace Reads
variable {f g : Nat → LexOut} {hd inp : Bytes}

theorem stop {t : Tok} (h0 : nlCount hd = 0) (h : ∀ nl, f nl = ⟨t, nl, inp⟩) : Reads f hd inp :=
  ⟨t, [], inp, rfl, fun nl => by rw [h, List.append_nil, h0]; rfl⟩

theorem step (h : Reads g [] inp) (hf : ∀ nl, f nl = g (nl + nlCount hd)) : Reads f hd inp := by
  obtain ⟨t, pre, rest, e, hg⟩ := h
  exact ⟨t, pre, rest, e, fun nl => by simp only [hf, hg, nlCount_append, List.nil_append, Nat.add_assoc]⟩

theorem congr (h : Reads g hd inp) (e : ∀ nl, f nl = g nl) : Reads f hd inp :=
  (funext e : f = g) ▸ h

theorem shift {x : Bytes} (h : Reads f (hd ++ x) inp) : Reads f hd (x ++ inp) := by
  obtain ⟨t, pre, rest, e, hf⟩ := h
  exact ⟨t, x ++ pre, rest, by rw [e, List.append_assoc], fun nl => by rw [hf, List.append_assoc]⟩

theorem bump (h : Reads f hd inp) (nl k : Nat) : f (nl + k) = (f nl).bump k := by
  obtain ⟨t, pre, rest, _, hf⟩ := h
  simp only [hf, LexOut.bump, Nat.add_right_comm]

theorem line (h : Reads f hd inp) (nl : Nat) : (f nl).nl + countNl (f nl).rest = nl + countNl (hd ++ inp) := by
  obtain ⟨t, pre, rest, rfl, hf⟩ := h
  simp only [hf, ← nlCount_eq_countNl, nlCount_append, Nat.add_assoc]

theorem rest_le (h : Reads f hd inp) (nl : Nat) : (f nl).rest.length ≤ inp.length := by
  obtain ⟨t, pre, rest, rfl, hf⟩ := h
  simp [hf]

theorem rest_eq (h : Reads f hd inp) (nl : Nat) : ∃ pre, inp = pre ++ (f nl).rest := by
  obtain ⟨t, pre, rest, rfl, hf⟩ := h
  exact ⟨pre, by rw [hf]⟩

theorem run (p : Nat → Bool) (hp : p c_nl = false) {t : Tok} (h0 : ∀ x ∈ hd, p x = true)
    (h : ∀ nl, f nl = ⟨t, nl, inp.dropWhile p⟩) : Reads f hd inp := by
  refine ⟨t, inp.takeWhile p, inp.dropWhile p, List.takeWhile_append_dropWhile.symm, fun nl => ?_⟩
  rw [h, nlCount_eq_zero]; · rfl
  intro x hx e
  have : p x = true := (List.mem_append.1 hx).elim (h0 x) (List.all_eq_true.1 List.all_takeWhile x)
  rw [e, hp] at this; cases this

end Reads

/-- the one thing the step machine relies on between two steps: after `$` the `{` is next -/
def dqModeOk (m : DqMode) (inp : Bytes) : Bool :=
  match m with
  | .envOpen => inp.head? == some c_lbr
  | _ => true

def DqMode.noEnv : DqMode → Bool
  | .envOpen => false
  | .env _ => false
  | _ => true

/-- a step on byte `c`, as a function of the line count `nl` and of the text `X` behind `c` (only `$` looks at `X`, so
for `$` this speaks of the actual text `cs` alone): it goes on, having counted `c`; or `c` is the closing quote; or it
fails in front of `c`.  `inEnv` says the step started inside a substitution, the only way to stay in one without a `$`. -/
inductive StepShape (inEnv : Prop) (f : Nat → Bytes → DqSt ⊕ LexOut) (c : Nat) (cs : Bytes) : Prop
  | go (m : DqMode) (acc : Bytes) (ok : dqModeOk m cs = true) (hm : m.noEnv = true ∨ c = c_dollar ∨ inEnv)
      (eq : ∀ nl X, (c = c_dollar → X = cs) → f nl X = .inl ⟨m, acc, nl + nlCount [c]⟩)
  | close (v : Bytes) (hc : c = c_dq) (eq : ∀ nl X, f nl X = .inr ⟨.str v, nl, X⟩)
  | fail (e : LexErr) (eq : ∀ nl X, f nl X = .inr ⟨.err e, nl, c :: X⟩)

theorem StepShape.mono {p q : Prop} {f c cs} (h : StepShape p f c cs) (hpq : p → q) : StepShape q f c cs := by
  cases h with
  | go m acc ok hm eq => exact .go m acc ok (hm.imp_right (·.imp_right hpq)) eq
  | close v hc eq => exact .close v hc eq
  | fail e eq => exact .fail e eq

theorem dqPlain_shape (acc : Bytes) (c : Nat) (cs : Bytes) : StepShape False (fun nl X => dqPlain acc nl c X) c cs := by
  unfold dqPlain
  by_cases h1 : c = c_dq
  · exact .close (cstr acc.reverse) h1 fun nl X => by simp [h1]
  by_cases h2 : c = c_nl
  · exact .go .plain (c_nl :: acc) rfl (.inl rfl) fun nl X _ => by simp [h2, nlCount_single]
  by_cases h3 : c = c_bs
  · exact .go .esc acc rfl (.inl rfl) fun nl X _ => by simp [h3, nlCount_single]
  by_cases h4 : c = c_dollar
  · cases cs with
    | nil => exact .go .plain (c :: acc) rfl (.inl rfl) fun nl X hX => by simp [h4, hX h4, nlCount_single]
    | cons d ds =>
      by_cases h5 : (d = c_lbr && hasRbr ds) = true
      · exact .go .envOpen acc (by simp at h5; simp [dqModeOk, h5.1]) (.inr (.inl h4)) fun nl X hX => by
          simp [h4, hX h4, h5, nlCount_single]
      · exact .go .plain (c :: acc) rfl (.inl rfl) fun nl X hX => by simp [h4, hX h4, h5, nlCount_single]
  · exact .go .plain (c :: acc) rfl (.inl rfl) fun nl X _ => by simp [h1, h2, h3, h4, nlCount_single]

theorem isDec_ne_nl {c : Nat} (h : isDec c = true) : c ≠ c_nl := by
  intro e; subst e; cases h

theorem isHex_ne_nl {c : Nat} (h : isHex c = true) : c ≠ c_nl := by
  intro e; subst e; cases h

theorem dqStep_shape (env : Env) (m : DqMode) (acc : Bytes) (c : Nat) (cs : Bytes) (hm : dqModeOk m (c :: cs) = true) :
    StepShape (m.noEnv = false) (fun nl X => dqStep env ⟨m, acc, nl⟩ c X) c cs := by
  cases m with
  | plain => exact (dqPlain_shape acc c cs).mono False.elim
  | envOpen =>
    have hc : c = c_lbr := by simpa [dqModeOk] using hm
    exact .go (.env []) acc rfl (.inr (.inr rfl)) fun nl X _ => by simp [dqStep, hc, nlCount_single]
  | env i =>
    by_cases h1 : c = c_rbr
    · exact .go .plain ((envLookup env i.reverse).reverse ++ acc) rfl (.inl rfl) fun nl X _ => by simp [dqStep, h1, nlCount_single]
    · exact .go (.env (c :: i)) acc rfl (.inr (.inr rfl)) fun nl X _ => by
        by_cases h2 : c = c_nl <;> simp [dqStep, h1, h2, nlCount_single]
  | esc =>
    by_cases h1 : c = c_nl
    · exact .go .plain acc rfl (.inl rfl) fun nl X _ => by simp [dqStep, h1, nlCount_single]
    by_cases h2 : isDec c = true
    · exact .go (.digits 1 (isOct c) (c - 48)) acc rfl (.inl rfl) fun nl X _ => by simp [dqStep, h1, h2, nlCount_single]
    by_cases h3 : c = 120
    · exact .go .hex0 acc rfl (.inl rfl) fun nl X _ => by simp [dqStep, h3, isDec, nlCount_single]
    cases h4 : simpleEsc c with
    | some v => exact .go .plain (v :: acc) rfl (.inl rfl) fun nl X _ => by simp [dqStep, h1, h2, h3, h4, nlCount_single]
    | none => exact .go .plain (c :: acc) rfl (.inl rfl) fun nl X _ => by simp [dqStep, h1, h2, h3, h4, nlCount_single]
  | hex0 =>
    by_cases h : isHex c = true
    · exact .go (.hex1 (hexVal c)) acc rfl (.inl rfl) fun nl X _ => by simp [dqStep, h, isHex_ne_nl h, nlCount_single]
    · simpa [dqStep, h] using (dqPlain_shape (120 :: acc) c cs).mono False.elim
  | hex1 v =>
    by_cases h : isHex c = true
    · exact .go .plain ((v * 16 + hexVal c) :: acc) rfl (.inl rfl) fun nl X _ => by
        simp [dqStep, h, isHex_ne_nl h, nlCount_single]
    · simpa [dqStep, h] using (dqPlain_shape (v :: acc) c cs).mono False.elim
  | digits n ao v =>
    by_cases h : isDec c = true
    · exact .go (.digits (n + 1) (ao && isOct c) (v * 8 + (c - 48))) acc rfl (.inl rfl) fun nl X _ => by
        simp [dqStep, h, isDec_ne_nl h, nlCount_single]
    cases h2 : finDigits n ao v with
    | ok b => simpa [dqStep, h, h2] using (dqPlain_shape (b :: acc) c cs).mono False.elim
    | error e => exact .fail e fun nl X => by simp [dqStep, h, h2]

theorem dqEof_eq (m : DqMode) (acc : Bytes) : ∃ e, ∀ nl, dqEof ⟨m, acc, nl⟩ = ⟨.err e, nl, []⟩ := by
  unfold dqEof
  cases m with
  | digits n ao v => cases h : finDigits n ao v with
    | ok _ => exact ⟨.unterminatedString, fun _ => by simp [h]⟩
    | error e => exact ⟨e, fun _ => by simp [h]⟩
  | _ => exact ⟨.unterminatedString, fun _ => rfl⟩

theorem dqRun_reads (env : Env) (inp : Bytes) : ∀ (m : DqMode) (acc : Bytes), dqModeOk m inp = true →
    Reads (fun nl => dqRun env ⟨m, acc, nl⟩ inp) [] inp ∧ ∀ nl, (dqRun env ⟨m, acc, nl⟩ inp).tok ≠ .eof := by
  induction inp with
  | nil =>
    intro m acc _
    obtain ⟨e, he⟩ := dqEof_eq m acc
    exact ⟨.stop rfl fun nl => he nl, fun nl => by simp [dqRun, he]⟩
  | cons c cs ih =>
    intro m acc hm
    simp only [dqRun]
    cases dqStep_shape env m acc c cs hm with
    | go m' acc' ok _ eq =>
      simp only [eq _ cs fun _ => rfl]
      exact ⟨(Reads.step (ih m' acc' ok).1 fun _ => rfl).shift (hd := []), fun nl => (ih m' acc' ok).2 _⟩
    | close v hc eq =>
      simp only [eq]
      exact ⟨Reads.shift (hd := []) (x := [c]) (.stop (by rw [hc]; rfl) fun _ => rfl), fun _ => Tok.noConfusion⟩
    | fail e eq =>
      simp only [eq]
      exact ⟨.stop rfl fun _ => rfl, fun _ => Tok.noConfusion⟩

theorem sqRun_cons (mode : SqMode) (acc : Bytes) (c : Nat) :
    (∃ mode' acc', ∀ nl X, sqRun mode acc nl (c :: X) = sqRun mode' acc' (nl + nlCount [c]) X) ∨
    (c = c_sq ∧ ∀ nl X, sqRun mode acc nl (c :: X) = ⟨.str (cstr acc.reverse), nl, X⟩) := by
  by_cases h2 : c = c_nl
  · cases mode
    · exact .inl ⟨.plain, c_nl :: acc, fun nl X => by simp [sqRun, h2, nlCount_single]⟩
    · exact .inl ⟨.plain, acc, fun nl X => by simp [sqRun, h2, nlCount_single]⟩
  cases mode with
  | plain =>
    by_cases h1 : c = c_sq
    · exact .inr ⟨h1, fun nl X => by simp [sqRun, h1]⟩
    by_cases h3 : c = c_bs
    · exact .inl ⟨.esc, acc, fun nl X => by simp [sqRun, h3, nlCount_single]⟩
    · exact .inl ⟨.plain, c :: acc, fun nl X => by simp [sqRun, h1, h2, h3, nlCount_single]⟩
  | esc =>
    by_cases h3 : (c = c_bs || c = c_sq) = true
    · exact .inl ⟨.plain, c :: acc, fun nl X => by simp [sqRun, h2, h3, nlCount_single]⟩
    · exact .inl ⟨.plain, c :: c_bs :: acc, fun nl X => by simp [sqRun, h2, h3, nlCount_single]⟩

theorem sqRun_reads (inp : Bytes) : ∀ (mode : SqMode) (acc : Bytes),
    Reads (fun nl => sqRun mode acc nl inp) [] inp ∧ ∀ nl, (sqRun mode acc nl inp).tok ≠ .eof := by
  induction inp with
  | nil => intro mode acc; exact ⟨.stop rfl fun nl => by cases mode <;> rfl, fun nl => by cases mode <;> exact Tok.noConfusion⟩
  | cons c cs ih =>
    intro mode acc
    rcases sqRun_cons mode acc c with ⟨mode', acc', e⟩ | ⟨hc, e⟩
    · exact ⟨(Reads.step (ih mode' acc').1 fun nl => e nl cs).shift (hd := []), fun nl => e nl cs ▸ (ih mode' acc').2 _⟩
    · exact ⟨Reads.shift (hd := []) (x := [c]) (.stop (by rw [hc]; rfl) fun nl => e nl cs), fun nl => e nl cs ▸ Tok.noConfusion⟩

theorem commentEnd_spec (inp rest : Bytes) (h : commentEnd inp = some rest) :
    ∃ pre, inp = pre ++ rest ∧ nlCount pre = 0 := by
  unfold commentEnd at h
  have e1 := List.takeWhile_append_dropWhile (p := isBlank) (l := inp)
  generalize inp.dropWhile isBlank = r at h e1
  cases r with
  | nil => cases h
  | cons c t =>
    simp only [] at h
    by_cases hc : c = c_star
    · rw [if_pos hc] at h
      have e2 := List.takeWhile_append_dropWhile (p := (· == c_star)) (l := c :: t)
      generalize (c :: t).dropWhile (· == c_star) = r2 at h e2
      cases r2 with
      | nil => cases h
      | cons d ds =>
        simp only [] at h
        by_cases hd : d = c_slash
        · rw [if_pos hd] at h
          cases h
          refine ⟨inp.takeWhile isBlank ++ ((c :: t).takeWhile (· == c_star) ++ [d]), ?_, ?_⟩
          · rw [List.append_assoc, List.append_assoc, List.singleton_append, e2, e1]
          · rw [nlCount_append, nlCount_append, nlCount_takeWhile _ rfl, nlCount_takeWhile _ rfl, hd]; rfl
        · rw [if_neg hd] at h; cases h
    · rw [if_neg hc] at h; cases h

/-- once `x` holds a byte behind its blanks and stars, `commentEnd` has decided without what follows `x` -/
theorem commentEnd_append (x b : Bytes) (h : (x.dropWhile isBlank).dropWhile (· == c_star) ≠ []) :
    commentEnd (x ++ b) = (commentEnd x).map (· ++ b) := by
  have h1 : x.dropWhile isBlank ≠ [] := fun e => h (by rw [e]; rfl)
  unfold commentEnd
  rw [(span_append_left b h1).2]
  obtain ⟨c, r, hr⟩ := List.exists_cons_of_ne_nil h1
  rw [hr] at h ⊢
  by_cases hc : c = c_star
  · obtain ⟨d, ds, hr2⟩ := List.exists_cons_of_ne_nil h
    simp only [List.cons_append, if_pos hc]
    rw [← List.cons_append, (span_append_left b h).2, hr2]
    by_cases hd : d = c_slash
    · simp only [List.cons_append, if_pos hd]; rfl
    · simp only [List.cons_append, if_neg hd]; rfl
  · simp only [List.cons_append, if_neg hc]; rfl

theorem commentRun_reads (inp : Bytes) : ∀ (acc : Bytes), Reads (fun nl => commentRun acc nl inp) [] inp := by
  induction inp with
  | nil => intro acc; exact .stop rfl fun _ => rfl
  | cons c cs ih =>
    intro acc
    cases he : commentEnd (c :: cs) with
    | some rest =>
      obtain ⟨pre, e, h0⟩ := commentEnd_spec _ _ he
      exact ⟨.comment (trimWs acc.reverse), pre, rest, e, fun nl => by simp [commentRun, he, h0]⟩
    | none => exact (Reads.step (hd := [c]) (ih (c :: acc)) fun nl => by rw [commentRun_cons, he]).shift (hd := [])

theorem lexWord_reads {c : Nat} (cs : Bytes) (hw : isWordByte c = true) : Reads (fun nl => lexWord nl (c :: cs)) [c] cs :=
  .run isWordByte rfl (t := .str (cstr (c :: cs.takeWhile isWordByte))) (by simpa using hw) fun nl => by simp [lexWord, hw]

theorem lineComment_reads (marker : Nat) {c : Nat} (cs : Bytes) (hc : c ≠ c_nl) :
    Reads (fun nl => lineComment marker nl (c :: cs)) [c] cs :=
  .run (· != c_nl) (by decide) (t := .comment (trimWs (cstr ((c :: cs.takeWhile (· != c_nl)).dropWhile (· == marker)))))
    (by simpa using hc) fun nl => by simp [lineComment, hc]

theorem hasRbr_split (ds : Bytes) (h : hasRbr ds = true) :
    ds = ds.takeWhile (· != c_rbr) ++ c_rbr :: (ds.dropWhile (· != c_rbr)).drop 1 := by
  induction ds with
  | nil => cases h
  | cons d ds ih =>
    by_cases hd : d = c_rbr
    · simp [hd]
    · have := ih (by simpa [hasRbr, hd] using h)
      simp only [List.takeWhile_cons, List.dropWhile_cons, bne_iff_ne, ne_eq, hd, not_false_eq_true, if_true, List.cons_append]
      rw [← this]

theorem lexInitial_reads_cons (env : Env) (c : Nat) (cs : Bytes) (ih : Reads (lexInitial env · cs) [] cs) :
    Reads (fun nl => lexInitial env nl (c :: cs)) [c] cs := by
  cases lexInitial_head env c cs with
  | skip eq => exact ih.step fun nl => eq nl cs fun _ => rfl
  | punct t _ hc eq => exact .stop (by rw [nlCount_single, if_neg hc]) fun nl => eq nl cs
  | word hw eq => exact (lexWord_reads cs hw).congr fun nl => eq nl cs fun _ => rfl
  | hash hc => subst hc; exact (lineComment_reads c_hash cs (by decide)).congr fun _ => rfl
  | slash2 ds hc hcs => subst hc hcs; exact (lineComment_reads c_slash _ (by decide)).congr fun _ => rfl
  | block ds hc hcs => subst hc hcs; exact Reads.shift (x := [c_star]) (Reads.step (commentRun_reads ds []) fun _ => rfl)
  | pluseq ds hc hcs => subst hc hcs; exact Reads.shift (x := [c_eq]) (.stop (t := .pluseq) rfl fun _ => rfl)
  | dq hc => subst hc; exact Reads.step (dqRun_reads env cs .plain [] rfl).1 fun _ => rfl
  | sq hc => subst hc; exact Reads.step (sqRun_reads cs .plain []).1 fun _ => rfl
  | dollar hc =>
    subst hc
    by_cases h15 : cs.head? = some c_lbr ∧ hasRbr cs.tail = true
    · cases cs with
      | nil => cases h15.1
      | cons d ds =>
        cases Option.some.inj h15.1
        refine ⟨.str (cstr (envLookup env (ds.takeWhile (· != c_rbr)))), c_lbr :: (ds.takeWhile (· != c_rbr) ++ [c_rbr]),
          (ds.dropWhile (· != c_rbr)).drop 1, ?_, fun nl => ?_⟩
        · simpa using hasRbr_split ds h15.2
        · simp [lexInitial_env env nl ds h15.2, nlCount_cons]
    · exact (lexWord_reads _ rfl).congr fun nl => lexInitial_dollar env nl cs h15

theorem lexInitial_reads (env : Env) (inp : Bytes) : Reads (lexInitial env · inp) [] inp := by
  induction inp with
  | nil => exact .stop rfl fun _ => rfl
  | cons c cs ih => exact (lexInitial_reads_cons env c cs ih).shift (hd := [])

end Confuse
